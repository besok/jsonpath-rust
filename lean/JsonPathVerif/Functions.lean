import JsonPathVerif.OkQuery
/-! The filter selector and the function extensions on states, each against its RFC 9535 definition. -/
namespace JP

theorem filterChildrenWith_spec (item : Ptr → Bool) (g : Spec.Node → Bool)
    (h : ∀ c : Ptr, item (Ptr.empty c.inner c.loc) = g (toN c)) (d : Data) :
    nodesOf (filterChildrenWith item d) = (nodesOf d).flatMap (fun n => (Spec.children n).filter g) := by
  refine nodesOf_flatMap (fun p => ?_) d
  rw [← childrenPtr_toN]
  cases hp : p.inner <;> simp [nodesOf, Data.toVec, childrenPtr, hp, List.filter_map, Function.comp_def, h]

/-- a filter is tested on its candidates as `Ptr.empty`, pointers without a path; `filterProcessWith` recognises them by that (`isInternal`)
and answers with the truth value instead of filtering their children: the hypothesis `p.path = []` of the filter side of the refinement -/
theorem filterProcessWith_internal (item : Ptr → Bool) (p : Ptr) (hp : p.path = []) :
    filterProcessWith item (.ref p) = dbool (item p) := by
  simp [filterProcessWith, Data.flatMap, Ptr.isInternal, hp]

theorem lengthFn_spec (d : Data) (hd : d.cmpShape) :
    (lengthFn d).cmpShape ∧ dataVal (lengthFn d) = Spec.lengthOf (dataVal d) := by
  cases d with
  | ref p => cases h : p.inner <;> simp [lengthFn, dataVal, Spec.lengthOf, h, di64, Data.cmpShape, Json.isScalar]
  | value v => cases v <;> simp [lengthFn, dataVal, Spec.lengthOf, di64, Data.cmpShape, Json.isScalar]
  | nothing => simp [lengthFn, dataVal, Spec.lengthOf, Data.cmpShape]
  | refs ps => exact absurd hd id

theorem countFn_spec (d : Data) (hd : d.shaped) :
    (countFn d).cmpShape ∧ dataVal (countFn d) = some (.num (.int (nodesOf d).length)) := by
  cases d <;> simp_all [countFn, dataVal, di64, Data.cmpShape, Json.isScalar, Data.toVec, Data.shaped]

theorem valueFn_spec (d : Data) (hd : d.shaped) :
    (valueFn d).cmpShape ∧ dataVal (valueFn d) = (match nodesOf d with | [n] => some n.2 | _ => none) := by
  match d, hd with
  | .value _, hd => exact absurd hd id
  | .ref _, _ | .nothing, _ | .refs [], _ | .refs [_], _ | .refs (_ :: _ :: _), _ =>
    simp [valueFn, dataVal, Data.cmpShape, Data.toVec, toN, nodesOf]

theorem toStrD_spec (d : Data) :
    toStrD d = (match dataVal d with | some (.str s) => some s | _ => none) := by
  cases d with
  | ref p => cases h : p.inner <;> simp [toStrD, dataVal, h]
  | value v => cases v <;> rfl
  | _ => rfl

theorem argValues_spec (d : Data) (hd : d.cmpShape) : argValues d = (dataVal d).toList := by
  cases d <;> simp_all [argValues, dataVal, Data.cmpShape]

theorem unDouble_plain : ∀ (s : Str), '\\' ∉ s → unDouble s = s
  | [], _ => rfl
  | c :: r, h => by
    have hc : c ≠ '\\' := fun e => h (e ▸ .head _)
    rw [unDouble, unDouble_plain r (fun e => h (.tail _ e))]
    intros; simp_all

/-- shape of a pattern operand: a computed string value carries no backslash -/
def Data.patShape : Data → Prop
  | .value (.str s) => '\\' ∉ s
  | _ => True

theorem toPatD_of_patShape (d : Data) (h : d.patShape) : toPatD d = toStrD d := by
  cases d with
  | value v => cases v <;> simp_all [toPatD, toStrD, Data.patShape, unDouble_plain]
  | _ => rfl

theorem literal_spec (l : Literal) (h : okLit l) :
    Spec.literalValue l = some (literalValue l) ∧ (literalValue l).isScalar = true := by
  cases l <;> simp_all [Spec.literalValue, literalValue, Json.isScalar, okLit]
  rename_i s
  exact unescape_plain _ s h (Nat.lt_succ_self _)

end JP
