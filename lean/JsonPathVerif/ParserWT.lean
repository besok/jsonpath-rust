import JsonPathVerif.Builder
import JsonPathVerif.Spec
/-! C07, layer 6b (function typing): whatever pair tree pest hands to the builder of `parser.rs`, a query that the builder
accepts is well-typed in the sense of RFC 9535 2.4.3 (`Spec.wtSegs`): `length`/`match`/`search` only get ValueType arguments,
`count`/`value` only queries, a value-returning function is never used as a test, a logical one never compared, arities are
right.  The statement quantifies over ALL pair trees, so it does not depend on the grammar. -/
namespace JP
open Spec

theorem isSingularSegs_eq (ss : List Segment) : JP.isSingularSegs ss = Spec.isSingularSegs ss := by
  fun_induction JP.isSingularSegs ss <;> simp_all [Spec.isSingularSegs]

/-- an argument as the builder produces it: well-formed inside, and if it is a function call, a well-typed one -/
def goodArg (a : FnArg) : Prop := wtArg a = true ∧ ∀ f, a = .test (.fn f) → tyFn f ≠ .bad
def goodTest (t : Test) : Prop := wtArg (.test t) = true ∧ ∀ f, t = .fn f → tyFn f ≠ .bad
def goodFn (f : TestFunction) : Prop := wtFn f = true ∧ tyFn f ≠ .bad

/-- a call that is not ill-typed has the type that goes with its name -/
theorem tyFn_of_ne_bad {f : TestFunction} (hb : tyFn f ≠ .bad) : tyFn f = if f.isComparable then .value else .logical := by
  cases f with
  | custom => rfl
  | _ => unfold tyFn at hb ⊢; split <;> simp_all [TestFunction.isComparable]

theorem valueType_ty : ∀ {a : FnArg}, goodArg a → a.isValueType = true → tyArg a = .value
  | .lit _, _, _ => rfl
  | .filter _, _, hv => nomatch hv
  | .test (.rel ss), _, hv | .test (.abs ss), _, hv => if_pos ((isSingularSegs_eq ss).symm.trans hv)
  | .test (.fn f), hg, hv => (tyFn_of_ne_bad (hg.2 f rfl)).trans (if_pos hv)

theorem nodesType_shape : ∀ {a : FnArg}, a.isNodesType = true → (∃ ss, a = .test (.rel ss)) ∨ (∃ ss, a = .test (.abs ss))
  | .test (.rel ss), _ => .inl ⟨ss, rfl⟩
  | .test (.abs ss), _ => .inr ⟨ss, rfl⟩
  | .test (.fn _), h | .lit _, h | .filter _, h => nomatch h

/-- `TestFunction::try_new` only builds well-typed calls (given well-formed arguments) -/
theorem tryNewFn_good (name : Str) (args : List FnArg) (hargs : ∀ a ∈ args, goodArg a) (f : TestFunction)
    (h : tryNewFn name args = .ok f) : goodFn f := by
  rcases tryNewFn_cases h with ⟨a, rfl, hv, rfl⟩ | ⟨a, rfl, hn, hf⟩ | ⟨a, b, rfl, ha, hb, hf⟩ | rfl
  · have g := hargs a (by simp)
    exact ⟨g.1, by simp [tyFn, valueType_ty g hv]⟩
  · have g := hargs a (by simp)
    rcases nodesType_shape hn with ⟨ss, rfl⟩ | ⟨ss, rfl⟩ <;> rcases hf with rfl | rfl <;> exact ⟨g.1, by simp [tyFn]⟩
  · have ga := hargs a (by simp)
    have gb := hargs b (by simp)
    rcases hf with rfl | rfl <;>
      exact ⟨by simp [wtFn, ga.1, gb.1], by simp [tyFn, valueType_ty ga ha, valueType_ty gb hb]⟩
  · exact ⟨conj_of_all wtArg wtArgs rfl (fun _ _ => rfl) args fun a ha => (hargs a ha).1, by simp [tyFn]⟩

/-- the typing predicates (`Spec.wtSegs` and the rest; for what goes into a function call, with the type of the call) are
closed under the builder -/
def wtClass : AstClass where
  segs ss := wtSegs ss = true
  seg s := wtSeg s = true
  sel s := wtSel s = true
  arg := goodArg
  fn := goodFn
  test := goodTest
  flt f := wtFilter f = true
  atom a := wtAtom a = true
  cmp c := wtCmp c = true
  segs_of := conj_of_all wtSeg wtSegs rfl (fun _ _ => rfl) _
  seg_sel h := h
  seg_sels := conj_of_all wtSel wtSels rfl (fun _ _ => rfl) _
  seg_desc h := h
  sel_wildcard := rfl
  sel_name _ := rfl
  sel_index _ := rfl
  sel_slice _ := rfl
  sel_filter h := h
  arg_lit _ := ⟨rfl, nofun⟩
  arg_test g := ⟨g.1, fun f hf => g.2 f (FnArg.test.inj hf)⟩
  arg_filter h := ⟨h, nofun⟩
  fn_new hargs h := tryNewFn_good _ _ hargs _ h
  test_rel h := ⟨h, nofun⟩
  test_abs h := ⟨h, nofun⟩
  test_fn g := ⟨g.1, fun f hf => Test.fn.inj hf ▸ g.2⟩
  flt_or := conj_of_all wtFilter wtFilters rfl (fun _ _ => rfl) _
  flt_and := conj_of_all wtFilter wtFilters rfl (fun _ _ => rfl) _
  flt_atom h := h
  atom_filter h := h
  atom_cmp hl hr := by simp [wtAtom, hl, hr]
  atom_test {t n} g hc := by
    cases t with
    | rel ss | abs ss => exact g.1
    | fn f => simp [wtAtom, tyFn_of_ne_bad (g.2 f rfl), hc f rfl, show wtFn f = true from g.1]
  cmp_lit _ := rfl
  cmp_sq _ := rfl
  cmp_fn g hc := by simp [wtCmp, tyFn_of_ne_bad g.2, hc, g.1]

structure BuilderWT (fuel : Nat) : Prop where
  segments : ∀ inp p ss, segmentsB fuel inp p = .ok ss → wtSegs ss = true
  childSegment : ∀ inp p sg, childSegmentB fuel inp p = .ok sg → wtSeg sg = true
  segment : ∀ inp p sg, segmentB fuel inp p = .ok sg → wtSeg sg = true
  selector : ∀ inp p sl, selectorB fuel inp p = .ok sl → wtSel sl = true
  fnArg : ∀ inp p a, fnArgB fuel inp p = .ok a → goodArg a
  functionExpr : ∀ inp p f, functionExprB fuel inp p = .ok f → goodFn f
  test : ∀ inp p t, testB fuel inp p = .ok t → goodTest t
  logicalExpr : ∀ inp p f, logicalExprB fuel inp p = .ok f → wtFilter f = true
  logicalExprAnd : ∀ inp p f, logicalExprAndB fuel inp p = .ok f → wtFilter f = true
  filterAtom : ∀ inp p a, filterAtomB fuel inp p = .ok a → wtAtom a = true
  comparable : ∀ inp p c, comparableB fuel inp p = .ok c → wtCmp c = true

/-- `BuilderWT fuel` is `BuilderInv wtClass fuel` with the predicates written out, the form in which C07 cites it -/
theorem builderWT : ∀ fuel, BuilderWT fuel := fun fuel => { builder_inv wtClass fuel with }

/-- C07 layer 6b: every query the parser model accepts is well-typed (RFC 9535 2.4.3) -/
theorem parse_wellTyped (s : Str) (q : List Segment) (h : parseJsonPath s = .ok q) : wtSegs q = true :=
  have ⟨_, _, _, h⟩ := parseJsonPath_ok h
  (builderWT _).segments _ _ q h

end JP
