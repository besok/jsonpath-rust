import JsonPathVerif.Functions
import JsonPathVerif.SpecSM
/-! Main refinement: for queries whose names/literals are escape-free and whose function calls are well-typed (`okSegs`), the
model of the Rust evaluator computes, as a LIST, the selector-major variant of the RFC nodelist (`Spec.segsSM`) and the RFC truth
value of every filter.  C01 (permutation of the RFC nodelist), C02 (RFC order where no multi-selector segment receives several
nodes) and the characterisation of the deviation all follow from this one statement by the specification-side facts of `SpecSM`. -/
namespace JP

variable (E : Engine) (root : Json)

theorem singular_shape : ∀ (ss : List Segment) (d : Data), Spec.isSingularSegs ss = true → d.sqShape →
    (Segment.processList E root ss d).sqShape
  | [], _, _, hd => hd
  | s :: ss, d, hs, hd => by
    cases s with
    | selector sel =>
      cases sel with
      | name k => exact singular_shape ss _ hs (Data.sqShape_flatMap _ d (processKey_sq k) hd)
      | index i => exact singular_shape ss _ hs (Data.sqShape_flatMap _ d (processIndex_sq i) hd)
      | _ => cases hs
    | _ => cases hs

theorem perm_le_one {α} {a b : List α} (h : a.Perm b) (hl : a.length ≤ 1) : a = b := by
  match a, b, hl, h.length_eq with
  | [], [], _, _ => rfl
  | [x], [y], _, _ => simpa using h

theorem sq_nodes_le_one (d : Data) (h : d.sqShape) : (nodesOf d).length ≤ 1 := by
  cases d <;> simp_all [Data.sqShape, Data.toVec]

theorem dataVal_sq_nodes (d : Data) (h : d.sqShape) :
    dataVal d = (match nodesOf d with | [n] => some n.2 | _ => none) := by
  cases d <;> simp_all [Data.sqShape, dataVal, nodesOf, Data.toVec]

theorem perm_of_sm {x : List Spec.Node} {ss : List Segment} {ns : List Spec.Node} (h : x = Spec.segsSM E root ss ns) :
    x.Perm (Spec.segs E root ss ns) := h ▸ Spec.segsSM_perm E root ss (.refl ns)

/-- a singular query run from one node or nothing, given the refinement for its segments (the induction hypothesis below): the
state denotes the value of the only node of the RFC nodelist, which has at most one (multi-selector segments being absent, the
selector-major variant IS the RFC nodelist) -/
theorem singular_value {ss : List Segment} {d : Data} (hs : Spec.isSingularSegs ss = true) (hd : d.sqShape)
    (ih : nodesOf (Segment.processList E root ss d) = Spec.segsSM E root ss (nodesOf d)) :
    ((Segment.processList E root ss d).cmpShape ∧
      dataVal (Segment.processList E root ss d) = (match Spec.segs E root ss (nodesOf d) with | [n] => some n.2 | _ => none)) ∧
    (Spec.segs E root ss (nodesOf d)).length ≤ 1 := by
  have hsq := singular_shape E root ss d hs hd
  have hle := sq_nodes_le_one _ hsq
  rw [← perm_le_one (perm_of_sm E root ih) hle]
  exact ⟨⟨cmpShape_of_sq _ hsq, dataVal_sq_nodes _ hsq⟩, hle⟩

/-- the values of a nodelist with at most one node, as the RFC reads a singular query in a value position -/
theorem values_of_le_one : ∀ {l : List Spec.Node}, l.length ≤ 1 →
    l.map (·.2) = (match l with | [n] => some n.2 | _ => none : Option Json).toList
  | [], _ | [_], _ => rfl

theorem desc_nodes (d : Data) :
    nodesOf (d.flatMap processDescendant) = cont ((nodesOf d).flatMap fun n => Spec.desc n.1 n.2) := by
  rw [cont, List.filter_flatMap]
  exact nodesOf_flatMap processDescendant_spec d

theorem boolOf_value (j : Json) : boolOf (.value j) = (match j with | .bool b => b | _ => false) := by
  cases j <;> rfl

theorem boolOf_present (r : Data) (n : Bool) :
    boolOf (bif presentOf r then dbool (!n) else dbool n) = ((!(nodesOf r).isEmpty) != n) := by
  cases r <;> cases n <;> simp [Data.toVec, presentOf] <;> (rename_i ps; cases ps <;> rfl)

theorem exists_test {ss : List Segment} {d : Data} (n : Bool)
    (ih : nodesOf (Segment.processList E root ss d) = Spec.segsSM E root ss (nodesOf d)) :
    boolOf (bif presentOf (Segment.processList E root ss d) then dbool (!n) else dbool n)
      = ((!(Spec.segs E root ss (nodesOf d)).isEmpty) != n) := by
  rw [boolOf_present, (perm_of_sm E root ih).isEmpty_eq]

theorem boolOf_regex (x y : Option Json) (sub : Bool) :
    boolOf (match (match x with | some (.str s) => some s | _ => none : Option Str),
                  (match y with | some (.str s) => some s | _ => none : Option Str) with
      | some s, some p => dbool (E.regexFn s p sub)
      | _, _ => dbool false)
    = (match x, y with
      | some (.str s), some (.str p) => E.regexFn s p sub
      | _, _ => false) := by
  match x, y with
  | none, _ => rfl
  | some a, none => cases a <;> rfl
  | some a, some b => cases a <;> cases b <;> rfl

/-! A computed string that reaches the pattern operand of `match`/`search` carries no backslash (so `toPatD` is `toStrD` there). -/

theorem lengthFn_patShape (d : Data) : (lengthFn d).patShape := by
  cases d with
  | ref p => cases h : p.inner <;> simp [lengthFn, h, di64, Data.patShape]
  | value v => cases v <;> simp [lengthFn, di64, Data.patShape]
  | refs _ | nothing => simp [lengthFn, di64, Data.patShape]
theorem valueFn_patShape (d : Data) (hd : d.shaped) : (valueFn d).patShape := by
  cases d with
  | value v => exact absurd hd id
  | refs ps => unfold valueFn; split <;> trivial
  | _ => trivial
theorem patShape_of_sq (d : Data) (h : d.sqShape) : d.patShape := by
  cases d <;> simp_all [Data.sqShape, Data.patShape]

theorem arg_patShape : ∀ (b : FnArg) (p : Ptr), okArgValue b → (b.process E root (.ref p)).patShape
  | .lit (.str _), _, hb => hb
  | .lit (.int _), _, _ | .lit (.float _ _), _, _ | .lit (.bool _), _, _ | .lit .null, _, _ => trivial
  | .test (.rel ss), _, hb | .test (.abs ss), _, hb => patShape_of_sq _ (singular_shape E root ss _ hb.1 trivial)
  | .test (.fn (.length a)), p, _ => lengthFn_patShape _
  | .test (.fn (.count a)), p, _ => by
      simp only [FnArg.process, Test.process, TestFunction.process]
      cases a.process E root (.ref p) <;> trivial
  | .test (.fn (.value a)), p, hb => by
      match a, hb with
      | .test (.rel ss), _ | .test (.abs ss), _ => exact valueFn_patShape _ (Segment.processList_shaped E root ss _ trivial)

mutual
theorem sel_spec : ∀ (s : Selector) (d : Data), okSel s →
    nodesOf (s.process E root d) = (nodesOf d).flatMap (Spec.sel E root s)
  | .name raw, d, hs => by
      obtain ⟨k, hk⟩ := hs
      exact nodesOf_flatMap (processKey_spec hk E root) d
  | .index i, d, _ => nodesOf_flatMap (processIndex_spec E root i) d
  | .wildcard, d, _ => nodesOf_flatMap processWildcard_spec d
  | .slice a b c, d, _ => nodesOf_flatMap (processSlice_spec E root a b c) d
  | .filter f, d, hf => by
      rw [Selector.process, filterChildrenWith_spec _ (fun c => Spec.logical E root c f) (fun c => flt_spec f (Ptr.empty c.inner c.loc) hf rfl) d]
      congr 1
theorem selAll_sm : ∀ (ss : List Selector) (d : Data), ss ≠ [] → okSels ss →
    nodesOf (Selector.processAll E root ss d) = Spec.selAllSM E root ss (nodesOf d)
  | [], _, hne, _ => absurd rfl hne
  | [s], d, _, hs => by simpa [Selector.processAll, Spec.selAllSM] using sel_spec s d hs.1
  | s :: s' :: ss, d, _, hs => by
      rw [Selector.processAll, nodesOf, Data.toVec_reduce _ _ (s.process_shaped E root d) (Selector.processAll_shaped E root _ d),
        List.map_append, Spec.selAllSM_cons, ← sel_spec s d hs.1, ← selAll_sm (s' :: ss) d (List.cons_ne_nil _ _) hs.2]
theorem seg_sm : ∀ (s : Segment) (d : Data), okSeg s →
    nodesOf (s.process E root d) = Spec.segSM E root s (nodesOf d)
  | .selector s, d, hs => sel_spec s d hs
  | .selectors ss, d, hs => selAll_sm ss d hs.1 hs.2
  | .descendant (.selector s), d, hs => by
      rw [Segment.process, Segment.process, sel_spec s _ hs, desc_nodes, Spec.flatMap_sel_cont]; rfl
  | .descendant (.selectors ss), d, hs => by
      rw [Segment.process, Segment.process, selAll_sm ss _ hs.1 hs.2, desc_nodes, Spec.selAllSM_cont]; rfl
theorem segs_sm : ∀ (ss : List Segment) (d : Data), okSegs ss →
    nodesOf (Segment.processList E root ss d) = Spec.segsSM E root ss (nodesOf d)
  | [], _, _ => rfl
  | s :: ss, d, hs => by rw [Segment.processList, segs_sm ss _ hs.2, seg_sm s d hs.1]; rfl
theorem flt_spec : ∀ (f : Filter) (p : Ptr), okFlt f → p.path = [] →
    boolOf (f.elem E root (.ref p)) = Spec.logical E root (toN p) f
  | .or fs, p, hf, hp => any_spec fs p hf hp
  | .and fs, p, hf, hp => all_spec fs p hf hp
  | .atom a, p, hf, hp => atom_spec a p hf hp
theorem any_spec : ∀ (fs : List Filter) (p : Ptr), okFlts fs → p.path = [] →
    Filter.any E root fs (.ref p) = Spec.logicalAny E root (toN p) fs
  | [], _, _, _ => rfl
  | f :: fs, p, hf, hp => by
      rw [Filter.any, Spec.logicalAny, filterProcessWith_internal _ p hp, boolOf_dbool, flt_spec f p hf.1 hp, any_spec fs p hf.2 hp]
theorem all_spec : ∀ (fs : List Filter) (p : Ptr), okFlts fs → p.path = [] →
    Filter.all E root fs (.ref p) = Spec.logicalAll E root (toN p) fs
  | [], _, _, _ => rfl
  | f :: fs, p, hf, hp => by
      rw [Filter.all, Spec.logicalAll, filterProcessWith_internal _ p hp, boolOf_dbool, flt_spec f p hf.1 hp, all_spec fs p hf.2 hp]
theorem atom_spec : ∀ (a : FilterAtom) (p : Ptr), okAtom a → p.path = [] →
    boolOf (a.process E root (.ref p)) = Spec.atom E root (toN p) a
  | .filter e n, p, ha, hp => by
      have he := flt_spec e p ha hp
      cases n <;> simp [FilterAtom.process, Spec.atom, filterProcessWith_internal _ p hp, he]
  | .test (.rel ss) n, _, ha, _ | .test (.abs ss) n, _, ha, _ => exists_test E root n (segs_sm ss _ ha)
  | .test (.fn f) n, p, ha, _ => by
      have hb : f.isResBool = true := by
        cases f <;> first | rfl | exact absurd ha id
      have h := fnLogical_spec f p ha
      cases n <;> simp [FilterAtom.process, Test.isResBool, hb, Test.process, Spec.atom, Spec.test, h]
  | .cmp op l r, p, ha, _ => by
      obtain ⟨hl1, hl2⟩ := cmp_spec l p ha.1
      obtain ⟨hr1, hr2⟩ := cmp_spec r p ha.2
      simp [FilterAtom.process, Spec.atom, cmpData_spec op _ _ hl1 hr1, hl2, hr2]
theorem cmp_spec : ∀ (c : Comparable) (p : Ptr), okCmp c →
    (c.process E root (.ref p)).cmpShape ∧ dataVal (c.process E root (.ref p)) = Spec.comparable E root (toN p) c
  | .lit l, p, hc => by
      obtain ⟨h1, h2⟩ := literal_spec l hc
      simp [Comparable.process, Spec.comparable, Data.cmpShape, dataVal, h1, h2]
  | .sq isRoot segs, p, hc => by
      have hstart : (if isRoot then rootData root else Data.ref p).sqShape := by split <;> trivial
      obtain ⟨h1, h2⟩ := singular_spec E root segs _ hc hstart
      refine ⟨by simpa [Comparable.process] using cmpShape_of_sq _ h1, ?_⟩
      simp only [Comparable.process, Spec.comparable, dataVal_of_sq _ h1, h2]
      congr 2
      split <;> simp [dataNode, rootData, toN]
  | .fn f, p, hc => by
      simpa [Comparable.process, Spec.comparable] using fnValue_spec f p hc
theorem fnValue_spec : ∀ (f : TestFunction) (p : Ptr), okFnValue f →
    (f.process E root (.ref p)).cmpShape ∧ dataVal (f.process E root (.ref p)) = Spec.fnValue E root (toN p) f
  | .length a, p, hf => by
      obtain ⟨h1, h2⟩ := argValue_spec a p hf
      obtain ⟨h3, h4⟩ := lengthFn_spec _ h1
      exact ⟨by simpa [TestFunction.process] using h3, by simp [TestFunction.process, Spec.fnValue, h4, h2]⟩
  | .count a, p, hf => by
      obtain ⟨h1, h2⟩ := argNodes_spec a p hf
      obtain ⟨h3, h4⟩ := countFn_spec _ h1
      refine ⟨by simpa [TestFunction.process] using h3, ?_⟩
      simp [TestFunction.process, Spec.fnValue, h4, h2.length_eq]
  | .value a, p, hf => by
      obtain ⟨h1, h2⟩ := argNodes_spec a p hf
      obtain ⟨h3, h4⟩ := valueFn_spec _ h1
      refine ⟨by simpa [TestFunction.process] using h3, ?_⟩
      simp only [TestFunction.process, Spec.fnValue, h4]
      generalize nodesOf (a.process E root (.ref p)) = x, Spec.argNodes E root (toN p) a = y at h2 ⊢
      match x, y, h2.length_eq with
      | [], [], _ | _ :: _ :: _, _ :: _ :: _, _ => rfl
      | [n], [m], _ => rw [List.singleton_perm_singleton.mp h2]
theorem fnLogical_spec : ∀ (f : TestFunction) (p : Ptr), okFnLogical f →
    boolOf (f.process E root (.ref p)) = Spec.fnLogical E root (toN p) f
  | .match a b, p, hf | .search a b, p, hf => by
      simp only [TestFunction.process, Spec.fnLogical, toPatD_of_patShape _ (arg_patShape E root b p hf.2), toStrD_spec,
        (argValue_spec a p hf.1).2, (argValue_spec b p hf.2).2]
      exact boolOf_regex E _ _ _
  | .custom name args, p, hf => by
      simp only [TestFunction.process, Spec.fnLogical, customArgs_spec args p hf, boolOf_value]
      generalize extensionCustom name _ = j
      cases j <;> rfl
theorem argValue_spec : ∀ (a : FnArg) (p : Ptr), okArgValue a →
    (a.process E root (.ref p)).cmpShape ∧ dataVal (a.process E root (.ref p)) = Spec.argValue E root (toN p) a
  | .lit l, p, ha => by
      obtain ⟨h1, h2⟩ := literal_spec l ha
      simp [FnArg.process, Spec.argValue, Data.cmpShape, dataVal, h1, h2]
  | .test (.rel ss), _, ha | .test (.abs ss), _, ha => (singular_value E root ha.1 (by trivial) (segs_sm ss _ ha.2)).1
  | .test (.fn f), p, ha => by
      simpa [FnArg.process, Test.process, Spec.argValue] using fnValue_spec f p ha
theorem argNodes_spec : ∀ (a : FnArg) (p : Ptr), okArgNodes a →
    (a.process E root (.ref p)).shaped ∧ (nodesOf (a.process E root (.ref p))).Perm (Spec.argNodes E root (toN p) a)
  | .test (.rel ss), _, ha | .test (.abs ss), _, ha =>
      ⟨Segment.processList_shaped E root ss _ trivial, perm_of_sm E root (segs_sm ss _ ha)⟩
theorem customArgs_spec : ∀ (args : List FnArg) (p : Ptr), okArgsCustom args →
    FnArg.values E root args (.ref p) = Spec.customArgs E root (toN p) args
  | [], _, _ => by simp [FnArg.values, Spec.customArgs]
  | a :: as, p, ha => by
      obtain ⟨h1, h2⟩ := argValue_spec a p ha.1
      simp only [FnArg.values, argValues_spec _ h1, h2, customArgs_spec as p ha.2]
      match a, ha.1 with
      | .lit l, _ => simp [Spec.customArgs, Spec.argValue]
      | .test (.rel ss), hok =>
        exact congrArg (· ++ _) (values_of_le_one (singular_value E root hok.1 (d := .ref p) trivial (segs_sm ss _ hok.2)).2).symm
      | .test (.abs ss), hok =>
        exact congrArg (· ++ _) (values_of_le_one (singular_value E root hok.1 (d := rootData root) trivial (segs_sm ss _ hok.2)).2).symm
      | .test (.fn f), _ => simp [Spec.customArgs, Spec.argValue]
end

theorem selAll_spec : ∀ (ss : List Selector) (d : Data), ss ≠ [] → okSels ss → d.shaped →
    (Selector.processAll E root ss d).shaped ∧
    (nodesOf (Selector.processAll E root ss d)).Perm ((nodesOf d).flatMap (Spec.selAll E root ss)) :=
  fun ss d hne hs _ => ⟨Selector.processAll_shaped E root ss d, selAll_sm E root ss d hne hs ▸ Spec.selAllSM_perm E root ss _⟩

theorem seg_spec : ∀ (s : Segment) (d : Data), okSeg s → d.shaped →
    (s.process E root d).shaped ∧ (nodesOf (s.process E root d)).Perm (Spec.seg E root s (nodesOf d)) :=
  fun s d hs _ => ⟨s.process_shaped E root d, seg_sm E root s d hs ▸ Spec.segSM_perm E root s (.refl _)⟩

/-- C02, characterisation: for EVERY well-formed query the result list is the selector-major variant of the RFC nodelist -/
theorem query_characterised (segs : List Segment) (hs : okSegs segs) :
    ∃ ps, jsPathProcess E segs root = .ok ps ∧ ps.map toN = Spec.querySM E segs root :=
  ⟨_, jsPathProcess_ok E root segs, segs_sm E root segs (rootData root) hs⟩

/-- C01: the result is a permutation of the RFC nodelist, never `Err`. -/
theorem query_perm (segs : List Segment) (hs : okSegs segs) :
    ∃ ps, jsPathProcess E segs root = .ok ps ∧ (ps.map toN).Perm (Spec.query E segs root) := by
  obtain ⟨ps, h1, h2⟩ := query_characterised E root segs hs
  exact ⟨ps, h1, perm_of_sm E root h2⟩

/-- C02 (partial, sharp): RFC order for every well-formed query in which no multi-selector segment receives two or more nodes -/
theorem query_ordered_sharp (segs : List Segment) (hs : okSegs segs) (hm : KF.multiSelOnMulti E root segs [([], root)] = false) :
    ∃ ps, jsPathProcess E segs root = .ok ps ∧ ps.map toN = Spec.query E segs root := by
  obtain ⟨ps, h1, h2⟩ := query_characterised E root segs hs
  exact ⟨ps, h1, h2.trans (segsSM_eq E root segs _ (noMulti_of_flag E root segs _ hm))⟩

/-- C02 (partial): results in RFC document order, duplicates preserved, for union-free top levels -/
theorem query_ordered (segs : List Segment) (hs : okSegs segs) (hu : unionFreeSegs segs) :
    ∃ ps, jsPathProcess E segs root = .ok ps ∧ ps.map toN = Spec.query E segs root := by
  obtain ⟨ps, h1, h2⟩ := query_characterised E root segs hs
  exact ⟨ps, h1, h2.trans (segsSM_eq E root segs _ (noMulti_of_unionFree E root segs _ hu))⟩

#print axioms query_perm
#print axioms query_ordered
#print axioms flt_spec
#print axioms seg_spec
end JP
