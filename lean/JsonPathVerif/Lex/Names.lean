import JsonPathVerif.Lex.Tokens
/-! `member_name_shorthand` and `function_name` of the generated grammar = the RFC 9535 lexemes (first character of the
name-first class, then greedily the name-char class), in every parsing context, because both rules are atomic. -/
namespace JP
namespace Lex
open JP.Pest

theorem den_ALPHA : Denotes ALPHA_ (fClass Abnf.isAlpha) :=
  (den_rule_normal .r_ALPHA (den_choice (den_prange 'a' 'z') (den_prange 'A' 'Z'))).congr
    (by simp only [fAlt_class]; rfl)

theorem den_name_first : Denotes name_first_ (fClass Abnf.isNameFirst) :=
  (den_rule_normal .r_name_first (den_choice den_ALPHA (den_choice (den_char '_')
    (den_choice (den_prange (Char.ofNat 0x80) (Char.ofNat 0xD7FF)) (den_prange (Char.ofNat 0xE000) (Char.ofNat 0x10FFFF)))))).congr
    (by simp only [fAlt_class, ← Bool.or_assoc, isNameFirst_eq])

theorem den_name_char : Denotes name_char_ (fClass Abnf.isNameChar) :=
  (den_rule_normal .r_name_char (den_choice den_name_first den_DIGIT)).congr
    (by simp only [RfcLex.DIGIT, fAlt_class]; rfl)

/-- RFC 9535 `member-name-shorthand = name-first *name-char`, as a greedy lexer -/
def rfcShorthand : Rest → Option Rest := lexFirstRest Abnf.isNameFirst Abnf.isNameChar

/-- layer 4a of C06/C07: in every parsing context the grammar's `member_name_shorthand` rule accepts exactly an RFC
shorthand name and stops right after it: no blank inside or after, any name-first character (incl. non-ASCII) accepted -/
theorem member_name_shorthand_spec (c : Ctx) (pos : Nat) (r : Rest) :
    (member_name_shorthand_ c pos r).map (·.rest) = rfcShorthand r :=
  (den_rule_atomic _ (den_seq den_name_first (den_rep den_name_char)) c pos r).trans (congrFun (fSeq_class_star _ _) r)

theorem den_LCALPHA : Denotes LCALPHA_ (fClass Abnf.isLc) := den_rule_normal .r_LCALPHA (den_prange 'a' 'z')

def isFnChar (x : Char) : Bool := Abnf.isLc x || x == '_' || Abnf.isDigit x

theorem den_function_name_char : Denotes function_name_char_ (fClass isFnChar) :=
  (den_rule_normal .r_function_name_char (den_choice (den_rule_normal .r_function_name_first den_LCALPHA)
    (den_choice (den_char '_') den_DIGIT))).congr
    (by simp only [RfcLex.DIGIT, fAlt_class, ← Bool.or_assoc]; rfl)

/-- RFC 9535 `function-name = function-name-first *function-name-char` -/
def rfcFunctionName : Rest → Option Rest := lexFirstRest Abnf.isLc isFnChar

theorem function_name_spec (c : Ctx) (pos : Nat) (r : Rest) :
    (function_name_ c pos r).map (·.rest) = rfcFunctionName r :=
  (den_rule_atomic _ (den_seq (den_rule_normal .r_function_name_first den_LCALPHA) (den_rep den_function_name_char)) c pos r).trans
    (congrFun (fSeq_class_star _ _) r)

example : rfcShorthand "ab c".toList = some " c".toList := by decide
example : rfcShorthand "1a".toList = none := by decide
example : rfcFunctionName "le ngth(".toList = some " ngth(".toList := by decide

end Lex
end JP
