import JsonPathVerif.Lex.Denote
import JsonPathVerif.Abnf
/-! The character classes the grammar's terminals spell out (ranges, single characters, pest's case-insensitive `^"X"`) are the
classes of the RFC's ABNF (`Abnf.is…`): both sides are compared as sets of code points (`char_le_iff`, `Char.toNat_inj`), by `omega`
where a range meets an enumeration. -/
namespace JP
namespace Lex

theorem char_le_iff (a b : Char) : a ≤ b ↔ a.toNat ≤ b.toNat := Iff.rfl

theorem isNameFirst_eq : Abnf.isNameFirst = fun x => Abnf.isAlpha x || x == '_' ||
    (Char.ofNat 0x80 ≤ x && x ≤ Char.ofNat 0xD7FF) || (Char.ofNat 0xE000 ≤ x && x ≤ Char.ofNat 0x10FFFF) := by
  funext x
  simp only [Abnf.isNameFirst, char_le_iff, Char.reduceToNat]

theorem isUnescaped_eq : Abnf.isUnescaped = fun x => (' ' ≤ x && x ≤ '!') || ('#' ≤ x && x ≤ '&') || ('(' ≤ x && x ≤ '[') ||
    (']' ≤ x && x ≤ Char.ofNat 0xD7FF) || (Char.ofNat 0xE000 ≤ x && x ≤ Char.ofNat 0x10FFFF) := by
  funext x
  simp only [Abnf.isUnescaped, char_le_iff, Char.reduceToNat]

theorem isHex_eq : Abnf.isHex = fun x => Abnf.isDigit x || x == 'A' || x == 'a' || x == 'B' || x == 'b' || x == 'C' || x == 'c' ||
    x == 'D' || x == 'd' || x == 'E' || x == 'e' || x == 'F' || x == 'f' := by
  funext x
  rw [Abnf.isHex, Bool.eq_iff_iff]
  simp only [Abnf.isDigit, Bool.or_eq_true, Bool.and_eq_true, decide_eq_true_eq, beq_iff_eq, ← Char.toNat_inj, char_le_iff, Char.reduceToNat]
  omega

/-- `eq_ignore_ascii_case` against an upper-case ASCII letter: that letter or its lower-case form -/
theorem ciEq_upper {u l : Char} (hu : 65 ≤ u.toNat ∧ u.toNat ≤ 90) (hl : l.toNat = u.toNat + 32) (x : Char) :
    ciEq x u = (x == u || x == l) := by
  rw [ciEq, isUpperAZ, isUpperAZ, Bool.eq_iff_iff]
  simp only [Bool.or_eq_true, Bool.and_eq_true, decide_eq_true_eq, beq_iff_eq, ← Char.toNat_inj]
  omega

/-- pest's `^"X"` for an upper-case ASCII letter X is the ABNF's case-insensitive "X": X or its lower-case form -/
theorem matchInsens_upper {u l : Char} (hu : 65 ≤ u.toNat ∧ u.toNat ≤ 90 := by decide) (hl : l.toNat = u.toNat + 32 := by decide) :
    matchInsens [u] = fClass (fun x => x == u || x == l) := by
  funext r
  cases r with
  | nil => rfl
  | cons x r' => simp [matchInsens, fClass, ciEq_upper hu hl]

/-- the letters of HEXDIG; a conjunction, so that `simp only` takes the six equations as one set of rewrite rules -/
theorem matchInsens_hexLetter :
    matchInsens ['A'] = fClass (fun x => x == 'A' || x == 'a') ∧ matchInsens ['B'] = fClass (fun x => x == 'B' || x == 'b') ∧
    matchInsens ['C'] = fClass (fun x => x == 'C' || x == 'c') ∧ matchInsens ['D'] = fClass (fun x => x == 'D' || x == 'd') ∧
    matchInsens ['E'] = fClass (fun x => x == 'E' || x == 'e') ∧ matchInsens ['F'] = fClass (fun x => x == 'F' || x == 'f') :=
  ⟨matchInsens_upper, matchInsens_upper, matchInsens_upper, matchInsens_upper, matchInsens_upper, matchInsens_upper⟩

end Lex
end JP
