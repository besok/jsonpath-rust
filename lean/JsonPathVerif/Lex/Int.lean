import JsonPathVerif.Lex.Tokens
/-! The (atomic) `int` rule of the grammar consumes exactly an RFC 9535 `int` lexeme, "0" / (["-"] DIGIT1 *DIGIT), greedy on
digits: `rfcInt` is the function `RfcLex.int` that the rule denotes, written out on lists.  `prep_digits` says of the digit
repetition inside it what a denotation leaves out: the position reached and that no pair is emitted. -/
namespace JP
namespace Lex
open JP.Pest

def isDigit (c : Char) : Bool := decide ('0' ≤ c ∧ c ≤ '9')
def isDigit1 (c : Char) : Bool := decide ('1' ≤ c ∧ c ≤ '9')

/-- RFC `int`, as a greedy lexer on the remaining input: returns the remaining input after the lexeme -/
def rfcInt : Rest → Option Rest
  | '0' :: r => some r
  | '-' :: d :: r => if isDigit1 d then some (r.dropWhile isDigit) else none
  | d :: r => if isDigit1 d then some (r.dropWhile isDigit) else none
  | [] => none

def atomicCtx (c : Ctx) : Ctx := { c with atom := .atomic }

theorem isDigit_eq : isDigit = Abnf.isDigit := funext fun _ => Bool.decide_and ..
theorem isDigit1_eq : isDigit1 = Abnf.isDigit1 := funext fun _ => Bool.decide_and ..

theorem rfcInt_eq (r : Rest) : RfcLex.int r = rfcInt r := by
  rw [RfcLex.int, RfcLex.DIGIT1, RfcLex.DIGIT, fSeq_class_star, ← isDigit_eq, ← isDigit1_eq]
  cases r with
  | nil => rfl
  | cons x r =>
    by_cases h0 : x = '0'
    · subst h0
      rfl
    · by_cases hm : x = '-'
      · subst hm
        cases r <;> rfl
      · simp [rfcInt, fAlt, fSeq, fOpt, fClass, lexFirstRest, h0, hm]

/-- the `int` rule accepts exactly an RFC `int` lexeme and stops right after it -/
theorem int_spec (c : Ctx) (pos : Nat) (r : Rest) :
    (int_ c pos r).map (·.rest) = rfcInt r :=
  (int_denotes c pos r).trans (rfcInt_eq r)

theorem prepGo_class {a : PEG} {P : Char → Bool} {c : Ctx} (hc : c.atom = .atomic)
    (ha : ∀ pos r, a c pos r = (fClass P r).map fun r' => ⟨pos + 1, r', []⟩) (n : Nat) :
    ∀ (pos : Nat) (r : Rest), r.length < n →
      prepGo a c n ⟨pos, r, []⟩ = ⟨pos + (r.takeWhile P).length, r.dropWhile P, []⟩ := by
  induction n with
  | zero => exact fun _ _ h => absurd h (Nat.not_lt_zero _)
  | succ n ih =>
    intro pos r h
    cases r with
    | nil => simp [prepGo, skip, hc, ha, fClass]
    | cons x r =>
      cases hx : P x
      · simp [prepGo, skip, hc, ha, fClass, hx]
      · simp [prepGo, skip, hc, ha, fClass, hx, ih (pos + 1) r (Nat.lt_of_succ_lt_succ h), Nat.add_assoc, Nat.add_comm 1]

theorem prep_class {a : PEG} {P : Char → Bool} {c : Ctx} (hc : c.atom = .atomic)
    (ha : ∀ pos r, a c pos r = (fClass P r).map fun r' => ⟨pos + 1, r', []⟩) (pos : Nat) (r : Rest) :
    prep a c pos r = some ⟨pos + (r.takeWhile P).length, r.dropWhile P, []⟩ := by
  cases r with
  | nil => simp [prep, ha, fClass]
  | cons x r =>
    cases hx : P x
    · simp [prep, ha, fClass, hx]
    · have h := prepGo_class hc ha (r.length + 2) (pos + 1) r (Nat.lt_add_of_pos_right Nat.two_pos)
      simp [prep, ha, fClass, hx, h, Nat.add_assoc, Nat.add_comm 1]

theorem DIGIT_eq (c : Ctx) (pos : Nat) (r : Rest) : DIGIT_ c pos r = (fClass isDigit r).map fun r' => ⟨pos + 1, r', []⟩ := by
  cases r with
  | nil => rfl
  | cons x r => simp [DIGIT_, psilent, prange, fClass, isDigit]

theorem prep_digits (c : Ctx) (hc : c.atom = .atomic) (pos : Nat) (r : Rest) :
    ∃ s, prep DIGIT_ c pos r = some s ∧ s.rest = r.dropWhile isDigit ∧ s.pos = pos + (r.takeWhile isDigit).length ∧ s.out = [] :=
  ⟨_, prep_class hc (DIGIT_eq c) pos r, rfl, rfl, rfl⟩

end Lex
end JP
