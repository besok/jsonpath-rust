import JsonPathVerif.Lex.Class
/-! Lexical layers 2-4 of C06/C07: the token rules of the GENERATED grammar (`int`, `number`, `string`) denote exactly the
RFC 9535 ABNF token definitions, transcribed here (namespace `RfcLex`) from Appendix A of the RFC as ordered-choice functions
over the RFC's character classes (ABNF string literals are case-insensitive, `%x` terminals exact; the alternatives of each
ABNF rule used here start with distinct characters or are tried longest-first, so ordered choice decides the same language).
Because `int`/`string` are atomic and `number` compound-atomic, the statements hold in every parsing context. -/
namespace JP
namespace Lex
open JP.Pest

namespace RfcLex
open Abnf
def ci (u l : Char) : LexFn := fClass fun x => x == u || x == l       -- ABNF "X" (case-insensitive string literal)
def DIGIT : LexFn := fClass isDigit
def DIGIT1 : LexFn := fClass isDigit1
def HEXDIG : LexFn := fClass isHex
/-- int = "0" / (["-"] DIGIT1 *DIGIT) -/
def int : LexFn := fAlt (fClass (· == '0')) (fSeq (fOpt (fClass (· == '-'))) (fSeq DIGIT1 (fStar DIGIT)))
/-- frac = "." 1*DIGIT -/
def frac : LexFn := fSeq (fClass (· == '.')) (fSeq DIGIT (fStar DIGIT))
/-- exp = "e" [ "-" / "+" ] 1*DIGIT -/
def exp : LexFn := fSeq (ci 'e' 'E') (fSeq (fOpt (fClass fun x => x == '-' || x == '+')) (fSeq DIGIT (fStar DIGIT)))
/-- number = (int / "-0") [ frac ] [ exp ] -/
def number : LexFn := fSeq (fAlt int (matchStr ['-', '0'])) (fSeq (fOpt frac) (fOpt exp))
/-- non-surrogate = ((DIGIT / "A"/"B"/"C" / "E"/"F") 3HEXDIG) / ("D" %x30-37 2HEXDIG ) -/
def nonSurrogate : LexFn :=
  fAlt (fSeq (fClass fun x => isDigit x || x == 'A' || x == 'a' || x == 'B' || x == 'b' || x == 'C' || x == 'c' || x == 'E' || x == 'e' || x == 'F' || x == 'f')
          (fSeq HEXDIG (fSeq HEXDIG HEXDIG)))
       (fSeq (ci 'D' 'd') (fSeq (fClass fun x => decide ('0' ≤ x ∧ x ≤ '7')) (fSeq HEXDIG HEXDIG)))
/-- high-surrogate = "D" ("8"/"9"/"A"/"B") 2HEXDIG -/
def highSurrogate : LexFn :=
  fSeq (ci 'D' 'd') (fSeq (fClass fun x => x == '8' || x == '9' || x == 'A' || x == 'a' || x == 'B' || x == 'b') (fSeq HEXDIG HEXDIG))
/-- low-surrogate = "D" ("C"/"D"/"E"/"F") 2HEXDIG -/
def lowSurrogate : LexFn :=
  fSeq (ci 'D' 'd') (fSeq (fClass fun x => x == 'C' || x == 'c' || x == 'D' || x == 'd' || x == 'E' || x == 'e' || x == 'F' || x == 'f') (fSeq HEXDIG HEXDIG))
/-- hexchar = non-surrogate / (high-surrogate "\" %x75 low-surrogate) -/
def hexchar : LexFn := fAlt nonSurrogate (fSeq highSurrogate (fSeq (fClass (· == '\\')) (fSeq (fClass (· == 'u')) lowSurrogate)))
/-- escapable = %x62 / %x66 / %x6E / %x72 / %x74 / "/" / "\" / (%x75 hexchar) -/
def escapable : LexFn :=
  fAlt (fClass fun x => x == 'b' || x == 'f' || x == 'n' || x == 'r' || x == 't' || x == '/' || x == '\\') (fSeq (fClass (· == 'u')) hexchar)
def unescaped : LexFn := fClass isUnescaped
def ESC : LexFn := fClass (· == '\\')
/-- double-quoted = unescaped / %x27 / ESC %x22 / ESC escapable -/
def doubleQuoted : LexFn := fAlt unescaped (fAlt (fClass (· == '\'')) (fAlt (fSeq ESC (fClass (· == '"'))) (fSeq ESC escapable)))
/-- single-quoted = unescaped / %x22 / ESC %x27 / ESC escapable -/
def singleQuoted : LexFn := fAlt unescaped (fAlt (fClass (· == '"')) (fAlt (fSeq ESC (fClass (· == '\''))) (fSeq ESC escapable)))
/-- string-literal = %x22 *double-quoted %x22 / %x27 *single-quoted %x27 -/
def stringLiteral : LexFn :=
  fAlt (fSeq (fClass (· == '"')) (fSeq (fStar doubleQuoted) (fClass (· == '"'))))
       (fSeq (fClass (· == '\'')) (fSeq (fStar singleQuoted) (fClass (· == '\''))))
end RfcLex

theorem den_DIGIT : Denotes DIGIT_ RfcLex.DIGIT := den_silent (den_prange '0' '9')
theorem den_DIGIT1 : Denotes DIGIT1_ RfcLex.DIGIT1 := den_silent (den_prange '1' '9')

/-- layer 2: the `int` rule denotes RFC `int`, in every parsing context -/
theorem int_denotes (c : Ctx) (pos : Nat) (r : Rest) : lexR int_ c pos r = RfcLex.int r :=
  den_rule_atomic _ (den_choice (den_char '0') (den_seq (den_opt (den_char '-')) (den_seq den_DIGIT1 (den_rep den_DIGIT)))) c pos r

theorem den_frac : Denotes frac_ RfcLex.frac :=
  den_rule_normal .r_frac (den_seq (den_char '.') (den_seq den_DIGIT (den_rep den_DIGIT)))
theorem den_exp : Denotes exp_ RfcLex.exp :=
  (den_rule_normal .r_exp (den_seq (den_choice (den_char 'e') (den_char 'E'))
    (den_seq (den_opt (den_choice (den_char '-') (den_char '+'))) (den_seq den_DIGIT (den_rep den_DIGIT))))).congr
    (by simp only [fAlt_class]; rfl)

/-- layer 3: the `number` rule denotes RFC `number`, in every parsing context -/
theorem number_denotes (c : Ctx) (pos : Nat) (r : Rest) : lexR number_ c pos r = RfcLex.number r :=
  den_rule_compound _ (den_seq (den_choice (fun c pos r _ => int_denotes c pos r) (den_pstr ['-', '0']))
    (den_seq (den_opt den_frac) (den_opt den_exp))) c pos r

theorem den_HEXDIG : Denotes HEXDIG_ RfcLex.HEXDIG :=
  (den_silent (den_choice den_DIGIT (den_choice (den_pinsens ['A']) (den_choice (den_pinsens ['B']) (den_choice (den_pinsens ['C'])
    (den_choice (den_pinsens ['D']) (den_choice (den_pinsens ['E']) (den_pinsens ['F'])))))))).congr
    (by simp only [matchInsens_hexLetter, RfcLex.DIGIT, fAlt_class, ← Bool.or_assoc, RfcLex.HEXDIG, isHex_eq])

theorem den_non_surrogate : Denotes non_surrogate_ RfcLex.nonSurrogate :=
  (den_silent (den_choice
    (den_seq (den_choice den_DIGIT (den_choice (den_pinsens ['A']) (den_choice (den_pinsens ['B']) (den_choice (den_pinsens ['C'])
      (den_choice (den_pinsens ['E']) (den_pinsens ['F'])))))) (den_seq den_HEXDIG (den_seq den_HEXDIG den_HEXDIG)))
    (den_seq (den_pinsens ['D']) (den_seq (den_prange '0' '7') (den_seq den_HEXDIG den_HEXDIG))))).congr
    (by simp only [matchInsens_hexLetter, RfcLex.DIGIT, fAlt_class, ← Bool.or_assoc, ← Bool.decide_and]; rfl)

theorem den_high_surrogate : Denotes high_surrogate_ RfcLex.highSurrogate :=
  (den_silent (den_seq (den_pinsens ['D']) (den_seq (den_choice (den_char '8') (den_choice (den_char '9')
    (den_choice (den_pinsens ['A']) (den_pinsens ['B'])))) (den_seq den_HEXDIG den_HEXDIG)))).congr
    (by simp only [matchInsens_hexLetter, fAlt_class, ← Bool.or_assoc]; rfl)

theorem den_low_surrogate : Denotes low_surrogate_ RfcLex.lowSurrogate :=
  (den_silent (den_seq (den_pinsens ['D']) (den_seq (den_choice (den_pinsens ['C']) (den_choice (den_pinsens ['D'])
    (den_choice (den_pinsens ['E']) (den_pinsens ['F'])))) (den_seq den_HEXDIG den_HEXDIG)))).congr
    (by simp only [matchInsens_hexLetter, fAlt_class, ← Bool.or_assoc]; rfl)

theorem den_hexchar : Denotes hexchar_ RfcLex.hexchar :=
  den_silent (den_choice den_non_surrogate (den_seq den_high_surrogate (den_seq (den_char '\\') (den_seq (den_char 'u') den_low_surrogate))))

theorem den_escapable : Denotes escapable_ RfcLex.escapable :=
  (den_silent (den_choice (den_char 'b') (den_choice (den_char 'f') (den_choice (den_char 'n') (den_choice (den_char 'r')
    (den_choice (den_char 't') (den_choice (den_char '/') (den_choice (den_char '\\') (den_seq (den_char 'u') den_hexchar))))))))).congr
    (by simp only [← fAlt_assoc, fAlt_class, ← Bool.or_assoc]; rfl)

theorem den_unescaped : Denotes unescaped_ RfcLex.unescaped :=
  (den_silent (den_choice (den_prange ' ' '!') (den_choice (den_prange '#' '&') (den_choice (den_prange '(' '[')
    (den_choice (den_prange ']' (Char.ofNat 0xD7FF)) (den_prange (Char.ofNat 0xE000) (Char.ofNat 0x10FFFF))))))).congr
    (by simp only [fAlt_class, ← Bool.or_assoc, RfcLex.unescaped, isUnescaped_eq])

theorem den_double_quoted : Denotes double_quoted_ RfcLex.doubleQuoted :=
  den_silent (den_choice den_unescaped (den_choice (den_char '\'')
    (den_choice (den_seq (den_silent (den_char '\\')) (den_char '"')) (den_seq (den_silent (den_char '\\')) den_escapable))))
theorem den_single_quoted : Denotes single_quoted_ RfcLex.singleQuoted :=
  den_silent (den_choice den_unescaped (den_choice (den_char '"')
    (den_choice (den_seq (den_silent (den_char '\\')) (den_char '\'')) (den_seq (den_silent (den_char '\\')) den_escapable))))

/-- layer 4: the `string` rule denotes RFC `string-literal`, in every parsing context: both quote styles, every escape the RFC
allows (upper- and lower-case hex, surrogate pairs only as pairs), nothing else -/
theorem string_denotes (c : Ctx) (pos : Nat) (r : Rest) : lexR string_ c pos r = RfcLex.stringLiteral r :=
  den_rule_atomic _ (den_choice (den_seq (den_char '"') (den_seq (den_rep den_double_quoted) (den_char '"')))
    (den_seq (den_char '\'') (den_seq (den_rep den_single_quoted) (den_char '\'')))) c pos r

example : RfcLex.stringLiteral "'a\\u00e9\\uD83D\\ude00' x".toList = some " x".toList := by decide
example : RfcLex.stringLiteral "'\\uD83D'".toList = none := by decide         -- lone high surrogate
example : RfcLex.stringLiteral "\"a\\'b\"".toList = none := by decide       -- \' is not an escape inside double quotes
example : RfcLex.number "-0.50e+10,".toList = some ",".toList := by decide
example : RfcLex.number "1. 5".toList = some ". 5".toList := by decide          -- stops before the blank: no `1. 5`
example : RfcLex.int "01".toList = some "1".toList := by decide

end Lex
end JP
