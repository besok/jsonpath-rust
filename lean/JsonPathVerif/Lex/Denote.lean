import JsonPathVerif.PestGrammar
/-! Denotation of PEG terms as plain functions on the remaining input, valid in every context that does not skip implicit
whitespace (atomic `@{}` and compound-atomic `${}` rules and everything called from inside them).  One lemma per combinator;
the denotation of a grammar rule is then obtained by composing them, rule by rule, following the generated file.  A few equations
between the functions (`fAlt_class`, `fStar_class`, …) bring a composed denotation into the form a specification is written in. -/
namespace JP
namespace Lex
open JP.Pest

abbrev LexFn := Rest → Option Rest

def lexR (p : PEG) (c : Ctx) (pos : Nat) (r : Rest) : Option Rest := (p c pos r).map (·.rest)

theorem lexR_eq_some {p : PEG} {c : Ctx} {pos : Nat} {r r' : Rest} :
    lexR p c pos r = some r' ↔ ∃ s, p c pos r = some s ∧ s.rest = r' :=
  Option.map_eq_some_iff

theorem lexR_of_eq_some {p : PEG} {c : Ctx} {pos : Nat} {r : Rest} {s : St RuleId} (h : p c pos r = some s) :
    lexR p c pos r = some s.rest := by
  rw [lexR, h, Option.map_some]

/-- no implicit whitespace is skipped in this context -/
def Tight (c : Ctx) : Prop := c.atom ≠ .nonAtomic

/-- `p` denotes `f` wherever no whitespace is skipped -/
def Denotes (p : PEG) (f : LexFn) : Prop := ∀ (c : Ctx) (pos : Nat) (r : Rest), Tight c → lexR p c pos r = f r

theorem skip_tight (c : Ctx) (h : Tight c) (pos : Nat) (r : Rest) : skip c pos r = (pos, r) :=
  if_neg (mt beq_iff_eq.1 h)

-- functional counterparts of the combinators
def fSeq (f g : LexFn) : LexFn := fun r => (f r).bind g
def fAlt (f g : LexFn) : LexFn := fun r => match f r with | some x => some x | none => g r
def fOpt (f : LexFn) : LexFn := fun r => match f r with | some x => some x | none => some r
def fClass (P : Char → Bool) : LexFn := fun r => match r with | x :: r' => if P x then some r' else none | [] => none
def fStarGo (f : LexFn) : Nat → Rest → Rest
  | 0, r => r
  | n+1, r => match f r with
    | some r' => if r'.length < r.length then fStarGo f n r' else r
    | none => r
/-- greedy repetition, exactly as pest's `repeat` (the first iteration is not progress-checked, like the generated code) -/
def fStar (f : LexFn) : LexFn := fun r => match f r with
  | none => some r
  | some r1 => some (fStarGo f (r.length + 1) r1)
def fNot (f : LexFn) : LexFn := fun r => match f r with | some _ => none | none => some r

/-- first character of class `P`, then greedily class `Q` -/
def lexFirstRest (P Q : Char → Bool) : Rest → Option Rest
  | x :: r => if P x then some (r.dropWhile Q) else none
  | [] => none

theorem fAlt_assoc (f g h : LexFn) : fAlt (fAlt f g) h = fAlt f (fAlt g h) := by
  funext r
  unfold fAlt
  cases f r <;> rfl

theorem fAlt_class (P Q : Char → Bool) : fAlt (fClass P) (fClass Q) = fClass (fun x => P x || Q x) := by
  funext r
  cases r with
  | nil => rfl
  | cons x r' => cases hP : P x <;> simp [fAlt, fClass, hP]

theorem fStarGo_class (Q : Char → Bool) (n : Nat) : ∀ r : Rest, r.length ≤ n → fStarGo (fClass Q) n r = r.dropWhile Q := by
  induction n with
  | zero =>
    intro r h
    rw [List.length_eq_zero_iff.1 (Nat.le_zero.1 h)]
    rfl
  | succ n ih =>
    intro r h
    cases r with
    | nil => rfl
    | cons x r =>
      cases hx : Q x
      · simp [fStarGo, fClass, hx]
      · simpa [fStarGo, fClass, hx] using ih r (Nat.le_of_succ_le_succ h)

theorem fStar_class (Q : Char → Bool) (r : Rest) : fStar (fClass Q) r = some (r.dropWhile Q) := by
  cases r with
  | nil => rfl
  | cons x r =>
    cases hx : Q x
    · simp [fStar, fClass, hx]
    · simp [fStar, fClass, hx, fStarGo_class Q _ r (Nat.le_add_right _ 2)]

theorem fSeq_class_star (P Q : Char → Bool) : fSeq (fClass P) (fStar (fClass Q)) = lexFirstRest P Q := by
  funext r
  cases r with
  | nil => rfl
  | cons x r => cases hx : P x <;> simp [fSeq, fClass, lexFirstRest, hx, fStar_class]

theorem matchStr_single (ch : Char) : matchStr [ch] = fClass (fun x => x == ch) := by
  funext r
  cases r with
  | nil => rfl
  | cons x r' => by_cases h : x = ch <;> simp [matchStr, fClass, h]

theorem den_pstr (s : List Char) : Denotes (pstr s) (matchStr s) := by
  intro c pos r _; unfold lexR pstr; cases matchStr s r <;> rfl
theorem den_char (ch : Char) : Denotes (pstr [ch]) (fClass (· == ch)) :=
  matchStr_single ch ▸ den_pstr [ch]
theorem den_pinsens (s : List Char) : Denotes (pinsens s) (matchInsens s) := by
  intro c pos r _; unfold lexR pinsens; cases matchInsens s r <;> rfl
theorem den_prange (lo hi : Char) : Denotes (prange lo hi) (fClass fun x => lo ≤ x && x ≤ hi) := by
  intro c pos r _
  unfold lexR prange fClass
  cases r with
  | nil => rfl
  | cons x r' => by_cases h : lo ≤ x ∧ x ≤ hi <;> simp [h]

theorem den_seq {a b : PEG} {f g : LexFn} (ha : Denotes a f) (hb : Denotes b g) : Denotes (a ~~ b) (fSeq f g) := by
  intro c pos r hc
  rw [fSeq, ← ha c pos r hc]
  unfold lexR pseq
  cases a c pos r with
  | none => rfl
  | some s1 =>
    simp only [skip_tight c hc, Option.map_some, Option.bind_some]
    rw [← hb c s1.pos s1.rest hc]
    unfold lexR
    cases b c s1.pos s1.rest <;> rfl

theorem den_choice {a b : PEG} {f g : LexFn} (ha : Denotes a f) (hb : Denotes b g) : Denotes (a // b) (fAlt f g) := by
  intro c pos r hc
  rw [fAlt, ← ha c pos r hc, ← hb c pos r hc]
  unfold lexR pchoice
  cases a c pos r <;> rfl

theorem den_opt {a : PEG} {f : LexFn} (ha : Denotes a f) : Denotes (popt a) (fOpt f) := by
  intro c pos r hc
  rw [fOpt, ← ha c pos r hc]
  unfold lexR popt
  cases a c pos r <;> rfl

theorem prepGo_den {a : PEG} {f : LexFn} (ha : Denotes a f) (c : Ctx) (hc : Tight c) (n : Nat) :
    ∀ s : St RuleId, (prepGo a c n s).rest = fStarGo f n s.rest := by
  induction n with
  | zero => exact fun _ => rfl
  | succ n ih =>
    intro s
    rw [fStarGo, ← ha c s.pos s.rest hc]
    unfold lexR prepGo
    simp only [skip_tight c hc]
    cases a c s.pos s.rest with
    | none => rfl
    | some s' =>
      simp only [Option.map_some]
      split
      · exact ih _
      · rfl

theorem den_rep {a : PEG} {f : LexFn} (ha : Denotes a f) : Denotes (prep a) (fStar f) := by
  intro c pos r hc
  rw [fStar, ← ha c pos r hc]
  unfold lexR prep
  cases a c pos r with
  | none => rfl
  | some s1 => exact congrArg some (prepGo_den ha c hc _ s1)

theorem Denotes.congr {p : PEG} {f g : LexFn} (h : Denotes p f) (e : f = g) : Denotes p g := e ▸ h

theorem den_silent {a : PEG} {f : LexFn} (ha : Denotes a f) : Denotes (psilent a) f := ha

/-- a rule reads what its body reads in the context the rule's kind sets up -/
theorem lexR_prule (id : RuleId) (k : Kind) (a : PEG) (c : Ctx) (pos : Nat) (r : Rest) :
    lexR (prule id k a) c pos r = lexR a (match k with
      | .normal => c
      | .atomic => { c with atom := .atomic }
      | .compound => { c with atom := .compound }
      | .nonatomic => { c with atom := .nonAtomic }) pos r := by
  unfold lexR prule
  simp only
  cases a _ pos r <;> rfl

theorem den_rule_normal {a : PEG} {f : LexFn} (id : RuleId) (ha : Denotes a f) : Denotes (prule id .normal a) f :=
  fun c pos r hc => (lexR_prule id .normal a c pos r).trans (ha c pos r hc)

/-- an atomic or compound-atomic rule denotes its body's function in EVERY outer context -/
theorem den_rule_atomic {a : PEG} {f : LexFn} (id : RuleId) (ha : Denotes a f) (c : Ctx) (pos : Nat) (r : Rest) :
    lexR (prule id .atomic a) c pos r = f r :=
  (lexR_prule id .atomic a c pos r).trans (ha _ pos r (by simp [Tight]))
theorem den_rule_compound {a : PEG} {f : LexFn} (id : RuleId) (ha : Denotes a f) (c : Ctx) (pos : Nat) (r : Rest) :
    lexR (prule id .compound a) c pos r = f r :=
  (lexR_prule id .compound a c pos r).trans (ha _ pos r (by simp [Tight]))

end Lex
end JP
