import JsonPathVerif.Children
import JsonPathVerif.Names
import JsonPathVerif.Selectors
import JsonPathVerif.NPath
/-! C03 / C01-borrow: every pointer produced in the main pipeline points at the node that
lives at `loc` in the document, and its path string is the Normalized Path of `loc` – for documents
with plain member names and queries whose name selectors are shorthand or single-quoted plain. -/
namespace JP

def Json.at : Json → Loc → Option Json
  | j, [] => some j
  | .arr xs, .idx i :: l => (xs[i]?).bind fun x => Json.at x l
  | .obj kvs, .key k :: l => (lookup k kvs).bind fun x => Json.at x l
  | _, _ => none

theorem Json.at_append : ∀ (l l' : Loc) (j : Json), j.at (l ++ l') = (j.at l).bind fun x => x.at l'
  | [], l', j => by rw [List.nil_append, Json.at, Option.bind_some]
  | s :: l, l', j => by
    cases j <;> cases s <;> first
      | rfl
      | simp only [List.cons_append, Json.at, Json.at_append l l', Option.bind_assoc]

def plainChar (c : Char) : Bool := c != '\'' && c != '\\' && decide (c.toNat ≥ 0x20)
def plainKey (k : Str) : Bool := k.all plainChar

mutual
def Json.plainKeys : Json → Bool
  | .arr xs => plainKeysL xs
  | .obj kvs => plainKeysM kvs
  | _ => true
def plainKeysL : List Json → Bool
  | [] => true
  | x :: xs => x.plainKeys && plainKeysL xs
def plainKeysM : List (Str × Json) → Bool
  | [] => true
  | (k, v) :: kvs => plainKey k && v.plainKeys && !(kvs.any fun kv => kv.1 == k) && plainKeysM kvs
end

theorem escChar_plain (c : Char) (h : plainChar c = true) : Spec.escChar c = [c] := by
  rcases NPath.escChar_cases c with hm | ⟨hlt, _⟩ | ⟨_, _, he⟩
  · exact absurd h ((by decide : ∀ x ∈ ['\'', '\\', Char.ofNat 8, Char.ofNat 12, '\n', '\r', '\t'], plainChar x ≠ true) c hm)
  · simp [plainChar] at h; omega
  · exact he

theorem flatMap_esc_plain : ∀ (k : Str), plainKey k = true → k.flatMap Spec.escChar = k
  | [], _ => rfl
  | c :: r, h => by
    simp only [plainKey, List.all_cons, Bool.and_eq_true] at h
    simp [escChar_plain c h.1, flatMap_esc_plain r (by simpa [plainKey] using h.2)]

theorem quote_notin_of_plain (k : Str) (h : plainKey k = true) : '\'' ∉ k ∧ '\\' ∉ k := by
  unfold plainKey at h
  simp only [List.all_eq_true] at h
  constructor <;> intro hm <;> have := h _ hm <;> simp [plainChar] at this

def quoted (k : Str) : Str := '\'' :: (k ++ ['\''])

/-! The pointer the evaluator makes for a child is its parent's, extended by one step: the location by the step, the path by the
text of the step (`NPath.stepStr`) – for a member whose name needs no escaping, and whether the selector echoes the name or the
quoted name. -/

theorem Ptr.idx_eq (x : Json) (loc : Loc) (path : Str) (i : Nat) :
    Ptr.idx x loc path i = ⟨loc ++ [.idx i], x, path ++ NPath.stepStr (.idx i)⟩ := by
  simp [Ptr.idx, NPath.stepStr]

theorem Ptr.key_quoted {k : Str} (hq : '\'' ∉ k) (v : Json) (loc : Loc) (path : Str) :
    Ptr.key v loc k path (quoted k) = Ptr.key v loc k path k := by
  have : k.head? ≠ some '\'' := fun e => hq (List.mem_of_mem_head? e)
  simp [Ptr.key, quoted, this, getLast_q]

theorem Ptr.key_plain {k : Str} (hk : plainKey k = true) (v : Json) (loc : Loc) (path : Str) :
    Ptr.key v loc k path k = ⟨loc ++ [.key k], v, path ++ NPath.stepStr (.key k)⟩ := by
  have : k.head? ≠ some '\'' := fun e => (quote_notin_of_plain k hk).1 (List.mem_of_mem_head? e)
  simp [Ptr.key, this, NPath.stepStr, flatMap_esc_plain k hk]

/-- pointer invariant of the main pipeline -/
structure PtrOk (root : Json) (p : Ptr) : Prop where
  at_loc : root.at p.loc = some p.inner
  path_eq : p.path = Spec.npath p.loc
  plain : p.inner.plainKeys = true

theorem PtrOk.plain_arr {root : Json} {p : Ptr} (hp : PtrOk root p) {xs : List Json} (hx : p.inner = .arr xs) : plainKeysL xs = true := by
  have := hp.plain; rwa [hx] at this
theorem PtrOk.plain_obj {root : Json} {p : Ptr} (hp : PtrOk root p) {kvs : List (Str × Json)} (hx : p.inner = .obj kvs) :
    plainKeysM kvs = true := by
  have := hp.plain; rwa [hx] at this

theorem lookup_plain : ∀ (kvs : List (Str × Json)) (k : Str) (v : Json), plainKeysM kvs = true → lookup k kvs = some v →
    plainKey k = true ∧ v.plainKeys = true
  | [], _, _, _, h => by simp [lookup] at h
  | (k', v') :: kvs, k, v, hp, h => by
    simp only [plainKeysM, Bool.and_eq_true] at hp
    unfold lookup at h
    split at h
    · rename_i heq
      have : k' = k := by simpa using heq
      subst this
      simp at h; subst h; exact ⟨hp.1.1.1, hp.1.1.2⟩
    · exact lookup_plain kvs k v hp.2 h

theorem getElem_plain : ∀ (xs : List Json) (i : Nat) (x : Json), plainKeysL xs = true → xs[i]? = some x → x.plainKeys = true
  | [], _, _, _, h => by simp at h
  | y :: ys, 0, x, hp, h => by
    simp only [plainKeysL, Bool.and_eq_true] at hp
    simp at h; subst h; exact hp.1
  | y :: ys, i+1, x, hp, h => by
    simp only [plainKeysL, Bool.and_eq_true] at hp
    exact getElem_plain ys i x hp.2 (by simpa using h)

theorem PtrOk.step {root : Json} {p : Ptr} (hp : PtrOk root p) {s : Step} {v : Json} (hv : p.inner.at [s] = some v)
    (hpl : v.plainKeys = true) : PtrOk root ⟨p.loc ++ [s], v, p.path ++ NPath.stepStr s⟩ :=
  ⟨by rw [Json.at_append, hp.at_loc]; exact hv, by rw [NPath.npath_snoc, hp.path_eq], hpl⟩

theorem ok_idx {root : Json} {p : Ptr} (hp : PtrOk root p) {xs : List Json} (hx : p.inner = .arr xs)
    {i : Nat} {x : Json} (hi : xs[i]? = some x) : PtrOk root (Ptr.idx x p.loc p.path i) :=
  Ptr.idx_eq .. ▸ hp.step (by simp [hx, Json.at, hi]) (getElem_plain xs i x (hp.plain_arr hx) hi)

theorem ok_key {root : Json} {p : Ptr} (hp : PtrOk root p) {kvs : List (Str × Json)} (hx : p.inner = .obj kvs)
    {k : Str} {v : Json} (hk : lookup k kvs = some v) : PtrOk root (Ptr.key v p.loc k p.path k) :=
  have ⟨hk1, hk2⟩ := lookup_plain kvs k v (hp.plain_obj hx) hk
  Ptr.key_plain hk1 .. ▸ hp.step (by simp [hx, Json.at, hk]) hk2

theorem mem_of_lookup {k : Str} {v : Json} : ∀ {kvs : List (Str × Json)}, lookup k kvs = some v → (k, v) ∈ kvs
  | (k', v') :: kvs, h => by
    unfold lookup at h
    split at h
    · rename_i hk
      cases h; cases eq_of_beq hk
      exact .head _
    · exact .tail _ (mem_of_lookup h)

theorem lookup_of_mem : ∀ (kvs : List (Str × Json)) (k : Str) (v : Json), plainKeysM kvs = true → (k, v) ∈ kvs →
    lookup k kvs = some v
  | [], _, _, _, h => by simp at h
  | (k', v') :: kvs, k, v, hp, h => by
    simp only [plainKeysM, Bool.and_eq_true] at hp
    simp only [List.mem_cons, Prod.mk.injEq] at h
    unfold lookup
    rcases h with ⟨rfl, rfl⟩ | h
    · simp
    · have hnot := hp.1.2
      simp only [Bool.not_eq_true', List.any_eq_false, beq_iff_eq] at hnot
      have hne : (k' == k) = false := beq_false_of_ne fun e => hnot (k, v) h e.symm
      simp [hne, lookup_of_mem kvs k v hp.2 h]

/-- the invariant passes from a pointer to its children: the one place where the document's member names matter -/
theorem childrenPtr_ok {root : Json} {p : Ptr} (hp : PtrOk root p) : ∀ c ∈ childrenPtr p, PtrOk root c := by
  intro c hc
  cases hx : p.inner with
  | arr xs => obtain ⟨x, i, hi, rfl⟩ := (mem_childrenPtr_arr hx).mp hc; exact ok_idx hp hx hi
  | obj kvs =>
    obtain ⟨k, v, hm, rfl⟩ := (mem_childrenPtr_obj hx).mp hc
    exact ok_key hp hx (lookup_of_mem kvs k v (hp.plain_obj hx) hm)
  | _ => simp [childrenPtr, hx] at hc

/-- name selectors whose echo is already normalized: shorthand, or single-quoted plain text -/
inductive NormalName : Str → Str → Prop
  | shorthand (k : Str) : '\\' ∉ k → k.head? ≠ some '\'' → k.head? ≠ some '"' → NormalName k k
  | squoted (k : Str) : '\'' ∉ k → '\\' ∉ k → NormalName ('\'' :: (k ++ ['\''])) k

theorem NormalName.plain {raw k : Str} (h : NormalName raw k) : PlainName raw k := by
  cases h with
  | shorthand _ h1 h2 h3 => exact PlainName.shorthand _ h1 h2 h3
  | squoted _ h1 h2 => exact PlainName.quoted '\'' _ (Or.inl rfl) h1 h2

/-! Whatever the document, a selector applied at a pointer returns children of that pointer (a name selector: if its echo is
normalized, the child under the member's own name), and the descendant walk children of children.  So a property of pointers that
passes to children holds of every result of a query. -/

theorem processKey_children {raw k : Str} (hn : NormalName raw k) (p : Ptr) : ∀ q ∈ (processKey raw p).toVec, q ∈ childrenPtr p := by
  intro q hq
  rw [processKey_plain hn.plain] at hq
  split at hq
  · next kvs hx =>
    rw [Data.toVec_ofOpt, Option.mem_toList, Option.map_eq_some_iff] at hq
    obtain ⟨v, hl, rfl⟩ := hq
    refine (mem_childrenPtr_obj hx).mpr ⟨k, v, mem_of_lookup hl, ?_⟩
    cases hn with
    | shorthand => rfl
    | squoted _ h1 _ => exact (Ptr.key_quoted h1 ..).symm
  · exact absurd hq List.not_mem_nil

theorem processIndex_children (i : Int) (p : Ptr) : ∀ q ∈ (processIndex i p).toVec, q ∈ childrenPtr p := by
  intro q hq
  rw [processIndex_eq] at hq
  split at hq
  · next xs hx =>
    rw [Data.toVec_ofOpt, Option.mem_toList, Option.bind_eq_some_iff] at hq
    obtain ⟨n, _, hq⟩ := hq
    obtain ⟨x, hn, rfl⟩ := Option.map_eq_some_iff.mp hq
    exact (mem_childrenPtr_arr hx).mpr ⟨x, n, hn, rfl⟩
  · exact absurd hq List.not_mem_nil

theorem processSlice_children (a b c : Option Int) (p : Ptr) : ∀ q ∈ (processSlice a b c p).toVec, q ∈ childrenPtr p := by
  intro q hq
  unfold processSlice at hq
  cases hx : p.inner <;> simp only [hx, Data.toVec, List.not_mem_nil, List.mem_filterMap] at hq
  obtain ⟨i, _, hi⟩ := hq
  split at hi <;> simp only [Option.some.injEq, reduceCtorEq] at hi
  exact (mem_childrenPtr_arr hx).mpr ⟨_, _, ‹_›, hi⟩

section
variable {P : Ptr → Prop} (hP : ∀ p, P p → ∀ c ∈ childrenPtr p, P c)
include hP

theorem descendant_closed : ∀ (j : Json) (loc : Loc) (path : Str), P ⟨loc, j, path⟩ →
    ∀ q ∈ (descendant ⟨loc, j, path⟩ j).toVec, P q
  | .arr xs, loc, path, hp, q, hq => by
    simp only [descendant, Data.reduce, Data.toVec, List.mem_cons, descList_eq, List.mem_flatMap] at hq
    obtain rfl | ⟨⟨x, i⟩, hm, hq⟩ := hq
    · exact hp
    · have := List.sizeOf_lt_of_mem (List.fst_mem_of_mem_zipIdx hm)   -- for `decreasing_by`: an element is smaller than the array
      exact descendant_closed x _ _
        (hP _ hp _ ((mem_childrenPtr_arr rfl).mpr ⟨x, i, List.mk_mem_zipIdx_iff_getElem?.mp hm, rfl⟩)) q hq
  | .obj kvs, loc, path, hp, q, hq => by
    simp only [descendant, Data.reduce, Data.toVec, List.mem_cons, descMembers_eq, List.mem_flatMap] at hq
    obtain rfl | ⟨⟨k, v⟩, hm, hq⟩ := hq
    · exact hp
    · have := List.sizeOf_lt_of_mem hm
      exact descendant_closed v _ _ (hP _ hp _ ((mem_childrenPtr_obj rfl).mpr ⟨k, v, hm, rfl⟩)) q hq
  | .null, _, _, _, _, hq | .bool _, _, _, _, _, hq | .num _, _, _, _, _, hq | .str _, _, _, _, _, hq => nomatch hq
termination_by j => sizeOf j
decreasing_by all_goals simp_wf; simp at this; omega

end

def AllOk (root : Json) (d : Data) : Prop := ∀ p ∈ d.toVec, PtrOk root p

theorem allOk_flatMap {root : Json} {d : Data} {f : Ptr → Data} (hd : AllOk root d)
    (hf : ∀ p, PtrOk root p → AllOk root (f p)) : AllOk root (d.flatMap f) := by
  intro q hq
  rw [Data.toVec_flatMap, List.mem_flatMap] at hq
  obtain ⟨p, hp, hq⟩ := hq
  exact hf p (hd p hp) q hq

theorem allOk_reduce {root : Json} {a b : Data} (ha : AllOk root a) (hb : AllOk root b) : AllOk root (a.reduce b) := by
  intro q hq
  have : q ∈ a.toVec ∨ q ∈ b.toVec := by
    cases a <;> cases b <;> simp only [Data.reduce, Data.toVec, List.mem_append, List.mem_cons, List.not_mem_nil, or_false, false_or] at hq ⊢ <;> exact hq
  exact this.elim (ha q) (hb q)

theorem AllOk.flatMap {root : Json} {d : Data} {f : Ptr → Data} (hd : AllOk root d) (hs : d.shaped)
    (hf : ∀ p, PtrOk root p → AllOk root (f p)) : AllOk root (d.flatMap f) := allOk_flatMap hd hf

theorem AllOk.reduce {root : Json} {a b : Data} (ha : AllOk root a) (hb : AllOk root b) (sa : a.shaped) (sb : b.shaped) :
    AllOk root (a.reduce b) := allOk_reduce ha hb

theorem allOk_children {root : Json} {f : Ptr → Data} (hf : ∀ p, ∀ q ∈ (f p).toVec, q ∈ childrenPtr p) {d : Data}
    (hd : AllOk root d) : AllOk root (d.flatMap f) :=
  allOk_flatMap hd fun p hp q hq => childrenPtr_ok hp q (hf p q hq)

theorem filterChildrenWith_ok {root : Json} (item : Ptr → Bool) {d : Data} (hd : AllOk root d) :
    AllOk root (filterChildrenWith item d) := by
  refine allOk_children (fun p q hq => ?_) hd
  cases hx : p.inner <;> simp only [hx, Data.toVec, List.not_mem_nil, List.mem_filter] at hq
  all_goals exact hq.1

theorem processDescendant_ok {root : Json} {p : Ptr} (hp : PtrOk root p) : AllOk root (processDescendant p) :=
  descendant_closed (fun _ => childrenPtr_ok) p.inner p.loc p.path hp

theorem descMembers_ok (root : Json) : ∀ (kvs : List (Str × Json)) (loc : Loc) (path : Str),
    (∀ k v, (k, v) ∈ kvs → PtrOk root (Ptr.key v loc k path k)) →
    ∀ q ∈ descMembers loc path kvs, PtrOk root q := by
  intro kvs loc path h q hq
  rw [descMembers_eq, List.mem_flatMap] at hq
  obtain ⟨⟨k, v⟩, hm, hq⟩ := hq
  exact processDescendant_ok (h k v hm) q hq

/-- name selectors of the main query are normalized spellings (filters are unconstrained) -/
def nnSel : Selector → Prop
  | .name raw => ∃ k, NormalName raw k
  | _ => True
def nnSels : List Selector → Prop
  | [] => True
  | s :: ss => nnSel s ∧ nnSels ss
def nnSeg : Segment → Prop
  | .descendant (.selector s) => nnSel s
  | .descendant (.selectors ss) => ss ≠ [] ∧ nnSels ss
  | .descendant (.descendant _) => False
  | .selector s => nnSel s
  | .selectors ss => ss ≠ [] ∧ nnSels ss
def nnSegs : List Segment → Prop
  | [] => True
  | s :: ss => nnSeg s ∧ nnSegs ss

variable (E : Engine)

theorem sel_ok {root : Json} (s : Selector) (hn : nnSel s) {d : Data} (hd : AllOk root d) : AllOk root (s.process E root d) := by
  cases s with
  | name raw => obtain ⟨k, hk⟩ := hn; exact allOk_children (processKey_children hk) hd
  | index i => exact allOk_children (processIndex_children i) hd
  | wildcard => exact allOk_children (fun p q hq => processWildcard_toVec p ▸ hq) hd
  | slice a b c => exact allOk_children (processSlice_children a b c) hd
  | filter f => rw [Selector.process]; exact filterChildrenWith_ok _ hd

theorem selAll_ok {root : Json} : ∀ (ss : List Selector), ss ≠ [] → nnSels ss → ∀ {d : Data}, AllOk root d →
    AllOk root (Selector.processAll E root ss d)
  | [], hne, _, _, _ => absurd rfl hne
  | [s], _, hn, _, hd => sel_ok E s hn.1 hd
  | s :: s' :: ss, _, hn, _, hd => allOk_reduce (sel_ok E s hn.1 hd) (selAll_ok (s' :: ss) (List.cons_ne_nil _ _) hn.2 hd)

theorem seg_ok {root : Json} (s : Segment) (hn : nnSeg s) {d : Data} (hd : AllOk root d) : AllOk root (s.process E root d) := by
  have hd' := allOk_flatMap hd fun p hp => processDescendant_ok (root := root) hp
  match s, hn with
  | .selector s, hn => exact sel_ok E s hn hd
  | .selectors ss, hn => exact selAll_ok E ss hn.1 hn.2 hd
  | .descendant (.selector s), hn => exact sel_ok E s hn hd'
  | .descendant (.selectors ss), hn => exact selAll_ok E ss hn.1 hn.2 hd'

theorem segs_ok {root : Json} : ∀ (ss : List Segment), nnSegs ss → ∀ {d : Data}, AllOk root d →
    AllOk root (Segment.processList E root ss d)
  | [], _, _, hd => hd
  | s :: ss, hn, _, hd => segs_ok ss hn.2 (seg_ok E s hn.1 hd)

/-- C03(a) + the borrow clause of C01: for a document with plain, distinct member names and a query
whose name selectors are shorthand or single-quoted plain text, every result carries the Normalized
Path of the node it points at, and its value is the value at that location. -/
theorem result_paths (root : Json) (hroot : root.plainKeys = true) (segs : List Segment) (hn : nnSegs segs)
    (ps : List Ptr) (h : jsPathProcess E segs root = .ok ps) :
    ∀ p ∈ ps, p.path = Spec.npath p.loc ∧ root.at p.loc = some p.inner := by
  have hroot' : AllOk root (rootData root) := by
    intro p hp
    cases List.mem_singleton.mp hp
    exact ⟨rfl, rfl, hroot⟩
  cases (jsPathProcess_ok E root segs).symm.trans h
  exact fun p hp => have := segs_ok E segs hn hroot' p hp; ⟨this.path_eq, this.at_loc⟩

#print axioms result_paths
#print axioms childrenPtr_ok
#print axioms ok_key
#print axioms ok_idx
end JP
