import JsonPathVerif.Paths
import JsonPathVerif.Pointer
import JsonPathVerif.NPath
/-! C03 (c) and C09 at the AST level.  For a location `l` whose member names need no escaping, `segsOfLoc l` is the AST of its
Normalized Path (`['k']` and `[i]` segments).  Evaluating that AST as a query returns exactly the node at `l` – with `l` as its
location and `Spec.npath l` as its path – or nothing if `l` does not exist; `reference` reads the same AST as the step list
`locSteps l`, so its walk returns the very same node (`C09.reference_get_ast`).  (What is not proved here is that the PARSER maps
the text `Spec.npath l` to `segsOfLoc l`; that link is carried by the correspondence, which re-queries every reported path and
feeds it back to `reference`.) -/
namespace JP
open NPath

def segsOfLoc : Loc → List Segment
  | [] => []
  | .key k :: l => .selector (.name (quoted k)) :: segsOfLoc l
  | .idx i :: l => .selector (.index i) :: segsOfLoc l

def locSteps : Loc → List PStep
  | [] => []
  | .key k :: l => .name k :: locSteps l
  | .idx i :: l => .index i :: locSteps l

def plainLoc : Loc → Bool
  | [] => true
  | .key k :: l => plainKey k && plainLoc l
  | .idx _ :: l => plainLoc l

theorem processList_nothing (E : Engine) (root : Json) : ∀ (l : Loc), Segment.processList E root (segsOfLoc l) .nothing = .nothing
  | [] => rfl
  | .key _ :: l | .idx _ :: l => processList_nothing E root l

theorem processKey_quoted {k : Str} (hk : plainKey k = true) (p : Ptr) :
    processKey (quoted k) p = match p.inner.at [.key k] with
      | some v => .ref ⟨p.loc ++ [.key k], v, p.path ++ stepStr (.key k)⟩
      | none => .nothing := by
  obtain ⟨hq, hb⟩ := quote_notin_of_plain k hk
  have hn : PlainName (quoted k) k := .quoted '\'' k (.inl rfl) hq hb
  rw [processKey, valueGet_plain hn]
  cases p.inner with
  | obj kvs => cases hl : lookup k kvs <;> simp [Json.at, hl, Ptr.key_quoted hq, Ptr.key_plain hk]
  | _ => rfl

theorem processIndex_nat (i : Nat) (p : Ptr) :
    processIndex i p = match p.inner.at [.idx i] with
      | some v => .ref ⟨p.loc ++ [.idx i], v, p.path ++ stepStr (.idx i)⟩
      | none => .nothing := by
  unfold processIndex
  cases p.inner with
  | arr xs =>
    by_cases h : xs.length ≤ i
    · simp [Json.at, h]
    · cases hx : xs[i]? <;> simp [Json.at, h, hx, Ptr.idx_eq]
  | _ => rfl

/-- evaluating the Normalized-Path AST from any pointer walks exactly along `l` -/
theorem processList_segsOfLoc (E : Engine) (root : Json) : ∀ (l : Loc) (p : Ptr), plainLoc l = true →
    Segment.processList E root (segsOfLoc l) (.ref p) =
      match p.inner.at l with
      | some v => .ref ⟨p.loc ++ l, v, p.path ++ l.flatMap stepStr⟩
      | none => .nothing
  | [], p, _ => by simp [segsOfLoc, Segment.processList, Json.at]
  | .key k :: l, p, h => by
    simp only [plainLoc, Bool.and_eq_true] at h
    show Segment.processList E root (segsOfLoc l) (processKey (quoted k) p) = _
    rw [processKey_quoted h.1, show p.inner.at (.key k :: l) = _ from Json.at_append [.key k] l p.inner]
    cases p.inner.at [.key k] with
    | none => exact processList_nothing E root l
    | some v => simp [processList_segsOfLoc E root l _ h.2]
  | .idx i :: l, p, h => by
    show Segment.processList E root (segsOfLoc l) (processIndex i p) = _
    rw [processIndex_nat, show p.inner.at (.idx i :: l) = _ from Json.at_append [.idx i] l p.inner]
    cases p.inner.at [.idx i] with
    | none => exact processList_nothing E root l
    | some v => simp [processList_segsOfLoc E root l _ h]

theorem pathSteps_segsOfLoc : ∀ (l : Loc), plainLoc l = true → pathSteps (segsOfLoc l) = some (locSteps l)
  | [], _ => rfl
  | .key k :: l, h => by
    simp only [plainLoc, Bool.and_eq_true] at h
    obtain ⟨hq, _⟩ := quote_notin_of_plain k h.1
    simp [segsOfLoc, pathSteps, locSteps, pathSteps_segsOfLoc l h.2, quoted, trimMatches_quoted '\'' k hq]
  | .idx i :: l, h => by simp [segsOfLoc, pathSteps, locSteps, pathSteps_segsOfLoc l h]

end JP
