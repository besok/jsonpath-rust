import JsonPathVerif.Spec
/-! C03 (b): the Normalized Path of RFC 9535 2.7 (`Spec.npath`) identifies the node: a decoder `parseNPath` is a left inverse
of `npath` for every location (arbitrary member names: quotes, backslashes, control characters, any Unicode), hence `npath` is
injective – two results have the same path exactly when they are the same node. -/
namespace JP
namespace NPath
open Spec

def digitsValue (ds : List Char) : Nat := ds.foldl (fun acc c => acc * 10 + (c.toNat - 48)) 0
theorem dv_toDigits (n : Nat) : digitsValue (Nat.toDigits 10 n) = n := by
  simpa only [digitsValue, Nat.ofDigitChars, Nat.mul_comm 10, Char.reduceToNat] using
    Nat.ofDigitChars_toDigits (b := 10) (n := n) (by decide) (by decide)

theorem natStr_eq (n : Nat) : natStr n = Nat.toDigits 10 n := by simp [natStr]
theorem natStr_digits (n : Nat) : ∀ c ∈ natStr n, c.isDigit = true := by
  intro c hc; rw [natStr_eq] at hc; exact Nat.isDigit_of_mem_toDigits (by decide) (by decide) hc
theorem natStr_ne_nil (n : Nat) : natStr n ≠ [] := by rw [natStr_eq]; exact Nat.toDigits_ne_nil

/-- the digits and `]` of an index step (after its `[`) -/
def decIdx (s : Str) : Option (Nat × Str) :=
  let ds := s.takeWhile Char.isDigit
  match s.dropWhile Char.isDigit with
  | ']' :: t => if ds.isEmpty then none else some (digitsValue ds, t)
  | _ => none

theorem decIdx_natStr (i : Nat) (t : Str) : decIdx (natStr i ++ ']' :: t) = some (i, t) := by
  have hd := natStr_digits i
  have hb : ¬ Char.isDigit ']' = true := by decide
  simp only [decIdx, List.takeWhile_append_of_pos hd, List.dropWhile_append_of_pos hd, List.takeWhile_cons_of_neg hb,
    List.dropWhile_cons_of_neg hb, List.append_nil, List.isEmpty_eq_false_iff.mpr (natStr_ne_nil i)]
  simp [natStr_eq, dv_toDigits]

def hexVal' (c : Char) : Nat := if c.toNat < 58 then c.toNat - 48 else c.toNat - 87

/-- one escaped character of a normalized name (after the opening quote); `none` at the closing quote or on malformed text -/
def decChar : Str → Option (Char × Str)
  | '\\' :: '\'' :: t => some ('\'', t)
  | '\\' :: '\\' :: t => some ('\\', t)
  | '\\' :: 'b' :: t => some (Char.ofNat 8, t)
  | '\\' :: 'f' :: t => some (Char.ofNat 12, t)
  | '\\' :: 'n' :: t => some ('\n', t)
  | '\\' :: 'r' :: t => some ('\r', t)
  | '\\' :: 't' :: t => some ('\t', t)
  | '\\' :: 'u' :: '0' :: '0' :: x :: y :: t => some (Char.ofNat (hexVal' x * 16 + hexVal' y), t)
  | '\\' :: _ => none
  | '\'' :: _ => none
  | c :: t => some (c, t)
  | [] => none

theorem hexVal_hexDigit : ∀ n, n < 16 → hexVal' (hexDigit n) = n := by decide

/-- the three kinds of character for `escChar`: one of the seven with a two-letter escape (evaluation gives it), another control
character, an ordinary one -/
theorem escChar_cases (c : Char) :
    c ∈ ['\'', '\\', Char.ofNat 8, Char.ofNat 12, '\n', '\r', '\t']
    ∨ (c.toNat < 0x20 ∧ escChar c = ['\\', 'u', '0', '0', hexDigit (c.toNat / 16), hexDigit (c.toNat % 16)])
    ∨ (c ≠ '\'' ∧ c ≠ '\\' ∧ escChar c = [c]) := by
  refine Decidable.or_iff_not_imp_left.mpr fun hm => ?_
  simp only [List.mem_cons, List.not_mem_nil, or_false, not_or] at hm
  obtain ⟨h1, h2, h3, h4, h5, h6, h7⟩ := hm
  have e3 : c.toNat ≠ 8 := fun e => h3 (by rw [← c.ofNat_toNat, e])
  have e4 : c.toNat ≠ 12 := fun e => h4 (by rw [← c.ofNat_toNat, e])
  have he : escChar c =
      if c.toNat < 0x20 then ['\\', 'u', '0', '0', hexDigit (c.toNat / 16), hexDigit (c.toNat % 16)] else [c] := by
    simp only [escChar, beq_iff_eq, h1, h2, e3, e4, h5, h6, h7, if_false]
  rw [he]
  by_cases h8 : c.toNat < 0x20
  · exact .inl ⟨h8, if_pos h8⟩
  · exact .inr ⟨h1, h2, if_neg h8⟩

theorem decChar_ordinary (c : Char) (t : Str) (h1 : c ≠ '\'') (h2 : c ≠ '\\') : decChar (c :: t) = some (c, t) := by
  rw [decChar] <;> intros <;> contradiction

theorem decChar_esc (c : Char) (t : Str) : decChar (escChar c ++ t) = some (c, t) := by
  rcases escChar_cases c with h | ⟨h, he⟩ | ⟨h1, h2, he⟩
  · simp only [List.mem_cons, List.not_mem_nil, or_false] at h
    rcases h with rfl | rfl | rfl | rfl | rfl | rfl | rfl <;> rfl
  · rw [he]
    show some (Char.ofNat (hexVal' (hexDigit (c.toNat / 16)) * 16 + hexVal' (hexDigit (c.toNat % 16))), t) = _
    rw [hexVal_hexDigit _ (by omega), hexVal_hexDigit _ (by omega), Nat.div_add_mod', c.ofNat_toNat]
  · rw [he]
    exact decChar_ordinary c t h1 h2

theorem escChar_ne_nil (c : Char) : escChar c ≠ [] := fun h => by
  have := decChar_esc c []
  rw [h] at this
  exact nomatch this

/-- `['name']`: characters until the closing quote -/
def decKey : Nat → Str → Option (Str × Str)
  | 0, _ => none
  | fuel+1, s => match s with
    | '\'' :: ']' :: t => some ([], t)
    | _ => match decChar s with
      | some (c, t) => (decKey fuel t).map fun kt => (c :: kt.1, kt.2)
      | none => none

theorem decKey_end (fuel : Nat) (t : Str) : decKey (fuel+1) ('\'' :: ']' :: t) = some ([], t) := rfl
theorem decKey_step (fuel : Nat) (s : Str) (c : Char) (t : Str) (h : decChar s = some (c, t)) :
    decKey (fuel+1) s = (decKey fuel t).map fun kt => (c :: kt.1, kt.2) := by
  rw [decKey]
  · rw [h]
  · intro t' e
    rw [e] at h
    exact nomatch h

theorem decKey_esc : ∀ (k : Str) (t : Str) (fuel : Nat), k.length < fuel →
    decKey fuel (k.flatMap escChar ++ '\'' :: ']' :: t) = some (k, t)
  | [], t, fuel+1, _ => decKey_end fuel t
  | c :: k, t, fuel+1, h => by
    rw [List.flatMap_cons, List.append_assoc, decKey_step fuel _ c _ (decChar_esc c _), decKey_esc k t fuel (by simpa using h)]
    rfl

/-- the text of one step of a Normalized Path -/
def stepStr : Step → Str
  | .key k => ['[', '\''] ++ k.flatMap escChar ++ ['\'', ']']
  | .idx i => ['['] ++ natStr i ++ [']']

theorem npath_eq (l : Loc) : npath l = '$' :: l.flatMap stepStr := by
  unfold npath
  congr 2

theorem npath_snoc (l : Loc) (s : Step) : npath (l ++ [s]) = npath l ++ stepStr s := by
  simp [npath_eq, List.flatMap_append]

def decSteps : Nat → Str → Option Loc
  | 0, _ => none
  | fuel+1, s => match s with
    | [] => some []
    | '[' :: '\'' :: r => (match decKey (r.length + 1) r with
      | some (k, t) => (decSteps fuel t).map (Step.key k :: ·)
      | none => none)
    | '[' :: r => (match decIdx r with
      | some (i, t) => (decSteps fuel t).map (Step.idx i :: ·)
      | none => none)
    | _ => none

def parseNPath : Str → Option Loc
  | '$' :: s => decSteps (s.length + 1) s
  | _ => none

theorem decSteps_nil (fuel : Nat) : decSteps (fuel+1) [] = some [] := rfl
theorem decSteps_key (fuel : Nat) (r k t : Str) (h : decKey (r.length + 1) r = some (k, t)) :
    decSteps (fuel+1) ('[' :: '\'' :: r) = (decSteps fuel t).map (Step.key k :: ·) := by
  rw [decSteps, h]
theorem decSteps_idx (fuel : Nat) (r : Str) (i : Nat) (t : Str) (h : decIdx r = some (i, t)) :
    decSteps (fuel+1) ('[' :: r) = (decSteps fuel t).map (Step.idx i :: ·) := by
  rw [decSteps]
  · rw [h]
  · intro r' e
    rw [e] at h
    exact nomatch h

theorem length_le_flatMap {α β} (f : α → List β) (hf : ∀ a, f a ≠ []) : ∀ (l : List α), l.length ≤ (l.flatMap f).length
  | [] => Nat.le_refl 0
  | a :: l => by
    have := length_le_flatMap f hf l
    have := List.length_pos_iff.mpr (hf a)
    simp only [List.flatMap_cons, List.length_append, List.length_cons]
    omega

theorem stepStr_ne_nil (s : Step) : stepStr s ≠ [] := by cases s <;> simp [stepStr]

theorem decSteps_flatMap : ∀ (l : Loc) (fuel : Nat), l.length < fuel → decSteps fuel (l.flatMap stepStr) = some l
  | [], fuel+1, _ => decSteps_nil fuel
  | .key k :: l, fuel+1, h => by
    have hk := decKey_esc k (l.flatMap stepStr) ((k.flatMap escChar ++ '\'' :: ']' :: l.flatMap stepStr).length + 1) (by
      have := length_le_flatMap escChar escChar_ne_nil k
      simp only [List.length_append]; omega)
    simp only [List.flatMap_cons, stepStr, List.cons_append, List.nil_append, List.append_assoc]
    rw [decSteps_key fuel _ k _ hk, decSteps_flatMap l fuel (by simpa using h)]
    rfl
  | .idx i :: l, fuel+1, h => by
    simp only [List.flatMap_cons, stepStr, List.cons_append, List.nil_append, List.append_assoc]
    rw [decSteps_idx fuel _ i _ (decIdx_natStr i _), decSteps_flatMap l fuel (by simpa using h)]
    rfl

theorem parseNPath_npath (l : Loc) : parseNPath (npath l) = some l := by
  rw [npath_eq]
  exact decSteps_flatMap l _ (Nat.lt_succ_of_le (length_le_flatMap stepStr stepStr_ne_nil l))

/-- C03 (b): two nodes have the same Normalized Path exactly when they are the same node -/
theorem npath_injective (l₁ l₂ : Loc) (h : npath l₁ = npath l₂) : l₁ = l₂ :=
  Option.some.inj (by rw [← parseNPath_npath l₁, h, parseNPath_npath l₂])

end NPath
end JP
