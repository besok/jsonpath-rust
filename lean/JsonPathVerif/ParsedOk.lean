import JsonPathVerif.OkB
import JsonPathVerif.ParserWT
/-! Bridge from the parser to the hypotheses of the evaluator theorems: a query that is well-typed (which every accepted query
is, `parse_wellTyped`), escape-free (`KF.escFreeSegs`) and of plain shape (`shSegs`: no empty bracketed selection, no doubled descendant
marker – neither can come out of the grammar – and custom-function arguments that are values) satisfies `okSegs`, the hypothesis
of `C01_partial`, `C02_characterised`, `C05_logical`, …  Hence those theorems apply to every ACCEPTED, escape-free query string. -/
namespace JP
open Spec KF

def valueShaped : FnArg → Bool
  | .lit _ => true
  | .test (.rel ss) => Spec.isSingularSegs ss
  | .test (.abs ss) => Spec.isSingularSegs ss
  | .test (.fn f) => tyFn f == .value
  | .filter _ => false

mutual
def shSeg : Segment → Bool
  | .descendant (.descendant _) => false
  | .descendant (.selector s) => shSel s
  | .descendant (.selectors ss) => !ss.isEmpty && shSels ss
  | .selector s => shSel s
  | .selectors ss => !ss.isEmpty && shSels ss
def shSels : List Selector → Bool
  | [] => true
  | s :: ss => shSel s && shSels ss
def shSel : Selector → Bool
  | .filter f => shFlt f
  | _ => true
def shSegs : List Segment → Bool
  | [] => true
  | s :: ss => shSeg s && shSegs ss
def shFlt : Filter → Bool
  | .or fs => shFlts fs
  | .and fs => shFlts fs
  | .atom a => shAtom a
def shFlts : List Filter → Bool
  | [] => true
  | f :: fs => shFlt f && shFlts fs
def shAtom : FilterAtom → Bool
  | .filter e _ => shFlt e
  | .test t _ => shTest t
  | .cmp _ l r => shCmp l && shCmp r
def shTest : Test → Bool
  | .rel ss => shSegs ss
  | .abs ss => shSegs ss
  | .fn f => shFn f
def shCmp : Comparable → Bool
  | .fn f => shFn f
  | _ => true
def shFn : TestFunction → Bool
  | .length a => shArg a
  | .count a => shArg a
  | .value a => shArg a
  | .match a b => shArg a && shArg b
  | .search a b => shArg a && shArg b
  | .custom _ args => shArgsCustom args
def shArgsCustom : List FnArg → Bool
  | [] => true
  | a :: as => valueShaped a && shArg a && shArgsCustom as
def shArg : FnArg → Bool
  | .lit _ => true
  | .test t => shTest t
  | .filter f => shFlt f
end

/-- the step at a constructor with two parts: the three hypotheses split into their halves, each half of the conclusion comes from the
corresponding halves -/
theorem and_of_parts {a b c d e f g h : Bool} (hw : (a && b) = true) (he : (c && d) = true) (hs : (e && f) = true)
    (k₁ : a = true → c = true → e = true → g = true) (k₂ : b = true → d = true → f = true → h = true) : (g && h) = true :=
  and_intro (k₁ (of_and_true hw).1 (of_and_true he).1 (of_and_true hs).1) (k₂ (of_and_true hw).2 (of_and_true he).2 (of_and_true hs).2)

theorem tyArg_value_of_if {c : Bool} {t : Ty} (h : (if c = true then Ty.value else t) = Ty.value) (ht : t ≠ Ty.value) : c = true := by
  cases c <;> simp_all

theorem tyArgs_value_of_if {x y : Ty} (h : (if (x == Ty.value && y == Ty.value) = true then Ty.logical else Ty.bad) = Ty.logical) :
    x = .value ∧ y = .value := by
  by_cases c : (x == Ty.value && y == Ty.value) = true
  · simpa using c
  · simp [c] at h

/-! Clause by clause: the three hypotheses and the conclusion unfold by computation to conjunctions over the same parts. -/
mutual
theorem bSeg : ∀ (s : Segment), wtSeg s = true → escFreeSeg s = true → shSeg s = true → okSegB s = true
  | .descendant (.selector s), hw, he, hs | .selector s, hw, he, hs => bSel s hw he hs
  | .descendant (.selectors ss), hw, he, hs | .selectors ss, hw, he, hs =>
      and_intro (of_and_true hs).1 (bSels ss hw he (of_and_true hs).2)
theorem bSels : ∀ (ss : List Selector), wtSels ss = true → escFreeSels ss = true → shSels ss = true → okSelsB ss = true
  | [], _, _, _ => rfl
  | s :: ss, hw, he, hs => and_of_parts hw he hs (bSel s) (bSels ss)
theorem bSel : ∀ (s : Selector), wtSel s = true → escFreeSel s = true → shSel s = true → okSelB s = true
  | .name raw, _, he, _ => he
  | .filter f, hw, he, hs => bFlt f hw he hs
  | .wildcard, _, _, _ | .index _, _, _, _ | .slice _ _ _, _, _, _ => rfl
theorem bSegs : ∀ (ss : List Segment), wtSegs ss = true → escFreeSegs ss = true → shSegs ss = true → okSegsB ss = true
  | [], _, _, _ => rfl
  | s :: ss, hw, he, hs => and_of_parts hw he hs (bSeg s) (bSegs ss)
theorem bFlt : ∀ (f : Filter), wtFilter f = true → escFreeFlt f = true → shFlt f = true → okFltB f = true
  | .or fs, hw, he, hs | .and fs, hw, he, hs => bFlts fs hw he hs
  | .atom a, hw, he, hs => bAtom a hw he hs
theorem bFlts : ∀ (fs : List Filter), wtFilters fs = true → escFreeFlts fs = true → shFlts fs = true → okFltsB fs = true
  | [], _, _, _ => rfl
  | f :: fs, hw, he, hs => and_of_parts hw he hs (bFlt f) (bFlts fs)
theorem bAtom : ∀ (a : FilterAtom), wtAtom a = true → escFreeAtom a = true → shAtom a = true → okAtomB a = true
  | .filter e _, hw, he, hs => bFlt e hw he hs
  | .test (.rel ss) _, hw, he, hs | .test (.abs ss) _, hw, he, hs => bSegs ss hw he hs
  | .test (.fn f) _, hw, he, hs => bFnLogical f (by simpa using (of_and_true hw).1) (of_and_true hw).2 he hs
  | .cmp _ l r, hw, he, hs => and_of_parts hw he hs (bCmp l) (bCmp r)
theorem bCmp : ∀ (c : Comparable), wtCmp c = true → escFreeCmp c = true → shCmp c = true → okCmpB c = true
  | .lit l, _, he, _ => he
  | .sq _ segs, _, he, _ => List.all_eq_true.mpr fun s hs => by
      have := List.all_eq_true.mp he s hs
      cases s <;> simp_all [okSQB]
  | .fn f, hw, he, hs => bFnValue f (by simpa using (of_and_true hw).1) (of_and_true hw).2 he hs
theorem bFnValue : ∀ (f : TestFunction), tyFn f = .value → wtFn f = true → escFreeFn f = true → shFn f = true → okFnValueB f = true
  | .length a, ht, hw, he, hs => bArgValue a (by simpa using tyArg_value_of_if ht (by decide)) hw he hs
  | .count a, ht, hw, he, hs | .value a, ht, hw, he, hs => bArgNodes a (by
      match a, ht with
      | .test (.rel ss), _ => exact .inl ⟨ss, rfl⟩
      | .test (.abs ss), _ => exact .inr ⟨ss, rfl⟩) hw he hs
  | .match a b, ht, _, _, _ | .search a b, ht, _, _, _ => by simp only [tyFn] at ht; split at ht <;> simp at ht
theorem bFnLogical : ∀ (f : TestFunction), tyFn f = .logical → wtFn f = true → escFreeFn f = true → shFn f = true → okFnLogicalB f = true
  | .match a b, ht, hw, he, hs | .search a b, ht, hw, he, hs =>
      have hab := tyArgs_value_of_if ht
      and_of_parts hw he hs (bArgValue a hab.1) (bArgValue b hab.2)
  | .custom _ args, _, hw, he, hs => bArgsCustom args hw he hs
  | .length a, ht, _, _, _ | .count a, ht, _, _, _ | .value a, ht, _, _, _ => by simp only [tyFn] at ht; split at ht <;> simp at ht
theorem bArgValue : ∀ (a : FnArg), tyArg a = .value → wtArg a = true → escFreeArg a = true → shArg a = true → okArgValueB a = true
  | .lit l, _, _, he, _ => he
  | .test (.rel ss), ht, hw, he, hs | .test (.abs ss), ht, hw, he, hs => and_intro (tyArg_value_of_if ht (by decide)) (bSegs ss hw he hs)
  | .test (.fn f), ht, hw, he, hs => bFnValue f ht hw he hs
theorem bArgNodes : ∀ (a : FnArg), ((∃ ss, a = .test (.rel ss)) ∨ (∃ ss, a = .test (.abs ss))) → wtArg a = true → escFreeArg a = true → shArg a = true → okArgNodesB a = true
  | .test (.rel ss), _, hw, he, hs | .test (.abs ss), _, hw, he, hs => bSegs ss hw he hs
  | .test (.fn _), h, _, _, _ | .lit _, h, _, _, _ | .filter _, h, _, _, _ => by rcases h with ⟨_, h⟩ | ⟨_, h⟩ <;> cases h
theorem bArgsCustom : ∀ (as : List FnArg), wtArgs as = true → escFreeArgs as = true → shArgsCustom as = true → okArgsCustomB as = true
  | [], _, _, _ => rfl
  | a :: as, hw, he, hs =>
      have hv : tyArg a = .value := by
        have := (of_and_true (of_and_true hs).1).1
        cases a with
        | lit _ => rfl
        | filter _ => simp [valueShaped] at this
        | test t => cases t <;> simp_all [valueShaped, tyArg]
      and_intro (bArgValue a hv (of_and_true hw).1 (of_and_true he).1 (of_and_true (of_and_true hs).1).2) (bArgsCustom as (of_and_true hw).2 (of_and_true he).2 (of_and_true hs).2)
end

/-- end to end: every ACCEPTED query string that is escape-free and of plain shape satisfies the hypothesis of the evaluator theorems -/
theorem parsed_ok (s : Str) (q : List Segment) (hp : parseJsonPath s = .ok q) (he : escFreeSegs q = true) (hs : shSegs q = true) : okSegs q :=
  okSegs_of q (bSegs q (parse_wellTyped s q hp) he hs)

end JP
