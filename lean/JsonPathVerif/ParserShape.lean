import JsonPathVerif.Builder
/-! C05, parser side: `&&` binds tighter than `||`.  Whatever pair tree the builder is handed, a logical expression it builds is
a disjunction (`or`) of conjunctions (`and`) of atoms – never a conjunction that contains a bare disjunction.  (Parenthesised
sub-expressions are atoms: `FilterAtom.filter`.)  Together with `C05_logical` this fixes the truth table of `a || b && c`. -/
namespace JP

/-- a conjunction level: a single atom, or `and` of atoms -/
def AndShape (f : Filter) : Prop := (∃ a, f = .atom a) ∨ (∃ fs, f = .and fs ∧ ∀ g ∈ fs, ∃ a, g = .atom a)
/-- a disjunction level: a conjunction level, or `or` of conjunction levels -/
def OrShape (f : Filter) : Prop := AndShape f ∨ (∃ fs, f = .or fs ∧ ∀ g ∈ fs, AndShape g)

theorem logicalExprAndB_shape (fuel : Nat) (inp : Inp) (p : PairT) (f : Filter) (h : logicalExprAndB fuel inp p = .ok f) : AndShape f := by
  cases fuel with
  | zero => cases h
  | succ fuel =>
    obtain ⟨fs, hfs, rfl | rfl⟩ := logicalExprAndB_ok h
    · obtain ⟨_, a, _, rfl⟩ := hfs _ (List.mem_singleton_self _)
      exact .inl ⟨a, rfl⟩
    · exact .inr ⟨fs, rfl, fun g hg => let ⟨_, a, _, hga⟩ := hfs g hg; ⟨a, hga⟩⟩

theorem logicalExprB_shape (fuel : Nat) (inp : Inp) (p : PairT) (f : Filter) (h : logicalExprB fuel inp p = .ok f) : OrShape f := by
  cases fuel with
  | zero => cases h
  | succ fuel =>
    unfold logicalExprB at h
    split at h
    · cases h; exact .inl (mapR_all (logicalExprAndB_shape fuel inp) ‹_› _ (List.mem_singleton_self _))
    · cases h; exact .inr ⟨_, rfl, mapR_all (logicalExprAndB_shape fuel inp) ‹_›⟩
    · cases h

end JP
