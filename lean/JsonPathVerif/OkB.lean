import JsonPathVerif.OkQuery
import JsonPathVerif.KF
/-! Boolean mirror of the hypothesis `okSegs` of the partial theorems, so that the driver can report
for every generated case whether it lies inside the proved fragment. -/
namespace JP
open KF

def okLitB : Literal → Bool := litPlain
def okSQB : SQSeg → Bool
  | .name raw => plainRaw raw
  | .index _ => true

mutual
def okSegB : Segment → Bool
  | .descendant (.descendant _) => false
  | .descendant (.selector s) => okSelB s
  | .descendant (.selectors ss) => !ss.isEmpty && okSelsB ss
  | .selector s => okSelB s
  | .selectors ss => !ss.isEmpty && okSelsB ss
def okSelsB : List Selector → Bool
  | [] => true
  | s :: ss => okSelB s && okSelsB ss
def okSelB : Selector → Bool
  | .name raw => plainRaw raw
  | .filter f => okFltB f
  | _ => true
def okSegsB : List Segment → Bool
  | [] => true
  | s :: ss => okSegB s && okSegsB ss
def okFltB : Filter → Bool
  | .or fs => okFltsB fs
  | .and fs => okFltsB fs
  | .atom a => okAtomB a
def okFltsB : List Filter → Bool
  | [] => true
  | f :: fs => okFltB f && okFltsB fs
def okAtomB : FilterAtom → Bool
  | .filter e _ => okFltB e
  | .test t _ => okTestB t
  | .cmp _ l r => okCmpB l && okCmpB r
def okTestB : Test → Bool
  | .rel ss => okSegsB ss
  | .abs ss => okSegsB ss
  | .fn f => okFnLogicalB f
def okCmpB : Comparable → Bool
  | .lit l => okLitB l
  | .sq _ segs => segs.all okSQB
  | .fn f => okFnValueB f
def okFnValueB : TestFunction → Bool
  | .length a => okArgValueB a
  | .count a => okArgNodesB a
  | .value a => okArgNodesB a
  | _ => false
def okFnLogicalB : TestFunction → Bool
  | .match a b => okArgValueB a && okArgValueB b
  | .search a b => okArgValueB a && okArgValueB b
  | .custom _ args => okArgsCustomB args
  | _ => false
def okArgValueB : FnArg → Bool
  | .lit l => okLitB l
  | .test (.rel ss) => Spec.isSingularSegs ss && okSegsB ss
  | .test (.abs ss) => Spec.isSingularSegs ss && okSegsB ss
  | .test (.fn f) => okFnValueB f
  | .filter _ => false
def okArgNodesB : FnArg → Bool
  | .test (.rel ss) => okSegsB ss
  | .test (.abs ss) => okSegsB ss
  | _ => false
def okArgsCustomB : List FnArg → Bool
  | [] => true
  | a :: as => okArgValueB a && okArgsCustomB as
end

theorem plainName_of_plainRaw (raw : Str) (h : plainRaw raw = true) : ∃ k, PlainName raw k := by
  unfold plainRaw hasBackslash at h
  simp only [Bool.and_eq_true, Bool.not_eq_true', List.any_eq_false, beq_iff_eq] at h
  obtain ⟨hb, hq⟩ := h
  have hnb : '\\' ∉ raw := fun hm => hb '\\' hm rfl
  match raw, hq, hnb with
  | [], _, hnb => exact ⟨[], PlainName.shorthand [] hnb (by simp) (by simp)⟩
  | q :: r, hq, hnb =>
    by_cases hqq : (q == '\'' || q == '"') = true
    · simp only [hqq, if_true, Bool.and_eq_true, decide_eq_true_eq, beq_iff_eq, Bool.not_eq_true', List.any_eq_false] at hq
      obtain ⟨⟨-, hlast⟩, hnq⟩ := hq
      obtain ⟨c, rfl⟩ := List.getLast?_eq_some_iff.mp hlast
      rw [List.dropLast_concat] at hnq
      exact ⟨c, .quoted q c (by simpa using hqq) (fun hm => by simpa using hnq q hm)
        fun hm => hnb (List.mem_cons_of_mem _ (List.mem_append_left _ hm))⟩
    · have hqq' : (q == '\'' || q == '"') = false := by simpa using hqq
      have h1 : q ≠ '\'' := by intro e; subst e; simp at hqq'
      have h2 : q ≠ '"' := by intro e; subst e; simp at hqq'
      exact ⟨q :: r, PlainName.shorthand _ hnb (by simp [h1]) (by simp [h2])⟩

theorem okLit_of (l : Literal) (h : okLitB l = true) : okLit l := by
  cases l <;> simp_all [okLitB, litPlain, okLit, hasBackslash]
  intro hm; exact absurd (h _ hm) (by simp)

theorem okSQ_of (s : SQSeg) (h : okSQB s = true) : okSQ s := by
  cases s with
  | name raw => exact plainName_of_plainRaw raw h
  | index i => trivial

theorem of_and_true {a b : Bool} (h : (a && b) = true) : a = true ∧ b = true := Bool.and_eq_true_iff.mp h
theorem and_intro {a b : Bool} (ha : a = true) (hb : b = true) : (a && b) = true := Bool.and_eq_true_iff.mpr ⟨ha, hb⟩

/-! Clause by clause the Boolean functions are the propositions: both unfold by computation, so each case hands the parts on. -/
mutual
theorem okSeg_of : ∀ (s : Segment), okSegB s = true → okSeg s
  | .descendant (.selector s), h | .selector s, h => okSel_of s h
  | .descendant (.selectors ss), h | .selectors ss, h => ⟨by simpa using (of_and_true h).1, okSels_of ss (of_and_true h).2⟩
theorem okSels_of : ∀ (ss : List Selector), okSelsB ss = true → okSels ss
  | [], _ => trivial
  | s :: ss, h => ⟨okSel_of s (of_and_true h).1, okSels_of ss (of_and_true h).2⟩
theorem okSel_of : ∀ (s : Selector), okSelB s = true → okSel s
  | .name raw, h => plainName_of_plainRaw raw h
  | .filter f, h => okFlt_of f h
  | .wildcard, _ | .index _, _ | .slice _ _ _, _ => trivial
theorem okSegs_of : ∀ (ss : List Segment), okSegsB ss = true → okSegs ss
  | [], _ => trivial
  | s :: ss, h => ⟨okSeg_of s (of_and_true h).1, okSegs_of ss (of_and_true h).2⟩
theorem okFlt_of : ∀ (f : Filter), okFltB f = true → okFlt f
  | .or fs, h | .and fs, h => okFlts_of fs h
  | .atom a, h => okAtom_of a h
theorem okFlts_of : ∀ (fs : List Filter), okFltsB fs = true → okFlts fs
  | [], _ => trivial
  | f :: fs, h => ⟨okFlt_of f (of_and_true h).1, okFlts_of fs (of_and_true h).2⟩
theorem okAtom_of : ∀ (a : FilterAtom), okAtomB a = true → okAtom a
  | .filter e _, h => okFlt_of e h
  | .test t _, h => okTest_of t h
  | .cmp _ l r, h => ⟨okCmp_of l (of_and_true h).1, okCmp_of r (of_and_true h).2⟩
theorem okTest_of : ∀ (t : Test), okTestB t = true → okTest t
  | .rel ss, h | .abs ss, h => okSegs_of ss h
  | .fn f, h => okFnLogical_of f h
theorem okCmp_of : ∀ (c : Comparable), okCmpB c = true → okCmp c
  | .lit l, h => okLit_of l h
  | .sq _ _, h => fun s hs => okSQ_of s (List.all_eq_true.mp h s hs)
  | .fn f, h => okFnValue_of f h
theorem okFnValue_of : ∀ (f : TestFunction), okFnValueB f = true → okFnValue f
  | .length a, h => okArgValue_of a h
  | .count a, h | .value a, h => okArgNodes_of a h
theorem okFnLogical_of : ∀ (f : TestFunction), okFnLogicalB f = true → okFnLogical f
  | .match a b, h | .search a b, h => ⟨okArgValue_of a (of_and_true h).1, okArgValue_of b (of_and_true h).2⟩
  | .custom _ args, h => okArgsCustom_of args h
theorem okArgValue_of : ∀ (a : FnArg), okArgValueB a = true → okArgValue a
  | .lit l, h => okLit_of l h
  | .test (.rel ss), h | .test (.abs ss), h => ⟨(of_and_true h).1, okSegs_of ss (of_and_true h).2⟩
  | .test (.fn f), h => okFnValue_of f h
theorem okArgNodes_of : ∀ (a : FnArg), okArgNodesB a = true → okArgNodes a
  | .test (.rel ss), h | .test (.abs ss), h => okSegs_of ss h
theorem okArgsCustom_of : ∀ (as : List FnArg), okArgsCustomB as = true → okArgsCustom as
  | [], _ => trivial
  | a :: as, h => ⟨okArgValue_of a (of_and_true h).1, okArgsCustom_of as (of_and_true h).2⟩
end

#print axioms okSegs_of
end JP
