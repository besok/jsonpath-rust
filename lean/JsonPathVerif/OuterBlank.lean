import JsonPathVerif.Parser
import JsonPathVerif.Abnf
/-! C07, outer blanks: `trimBlank` changes every string that begins or ends with a blank, and such a string the parser model
rejects outright (`parseJsonPath_untrimmed`); the oracle has no parse for a string that does not begin with `$`. -/
namespace JP

theorem trimBlank_sublist (s : Str) : (trimBlank s).Sublist (s.dropWhile isBlank) := by
  unfold trimBlank
  rw [← List.reverse_sublist, List.reverse_reverse]
  exact List.dropWhile_sublist _

theorem getLast?_trimBlank {s : Str} {c : Char} (h : (trimBlank s).getLast? = some c) : isBlank c = false := by
  rw [trimBlank, List.getLast?_reverse] at h
  have := List.head?_dropWhile_not isBlank (s.dropWhile isBlank).reverse
  rwa [h] at this

theorem trimBlank_cons_blank (c : Char) (s : Str) (hb : isBlank c = true) : trimBlank (c :: s) ≠ c :: s := by
  intro h
  have hs : (trimBlank (c :: s)).Sublist s := by
    refine (trimBlank_sublist _).trans ?_
    rw [List.dropWhile_cons_of_pos hb]
    exact List.dropWhile_sublist _
  rw [h] at hs
  exact Nat.not_succ_le_self _ hs.length_le

theorem trimBlank_snoc_blank (c : Char) (s : Str) (hb : isBlank c = true) : trimBlank (s ++ [c]) ≠ s ++ [c] := by
  intro h
  have := getLast?_trimBlank (s := s ++ [c]) (c := c) (by rw [h, List.getLast?_concat])
  exact Bool.noConfusion (hb.symm.trans this)

theorem parseJsonPath_untrimmed {s : Str} (h : trimBlank s ≠ s) : parseJsonPath s = err := by
  unfold parseJsonPath
  exact if_pos (bne_iff_ne.2 h.symm)

theorem parseAll_of_ne {c : Char} (hc : c ≠ '$') (s : Str) : Abnf.parseAll (c :: s) = [] := by
  simp [Abnf.parseAll, hc]

end JP
