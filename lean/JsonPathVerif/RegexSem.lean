import JsonPathVerif.Regex
/-! Declarative semantics of the regular-expression dialect and the proof that the matcher of
`Regex.lean` (`ends`, `isMatch`) decides it: `M` is the positional matching relation (it knows
about `^`/`$`), `L` the textbook language of an anchor-free expression. -/
namespace JP
namespace Re

/-- `M inp r i j`: `r` matches `inp` from position `i` up to position `j` -/
inductive M (inp : Array Char) : Rx → Nat → Nat → Prop
  | eps (i) : M inp .eps i i
  | chr (c i) (h : i < inp.size) : inp[i] = c → M inp (.chr c) i (i + 1)
  | any (i) (h : i < inp.size) : inp[i] ≠ '\n' → M inp .any i (i + 1)
  | cls (neg items i) (h : i < inp.size) : clsMatch neg items inp[i] = true → M inp (.cls neg items) i (i + 1)
  | seq {a b i k j} : M inp a i k → M inp b k j → M inp (.seq a b) i j
  | altL {a b i j} : M inp a i j → M inp (.alt a b) i j
  | altR {a b i j} : M inp b i j → M inp (.alt a b) i j
  | optNone {a} (i) : M inp (.opt a) i i
  | optSome {a i j} : M inp a i j → M inp (.opt a) i j
  | starNil {a} (i) : M inp (.star a) i i
  | starCons {a i k j} : M inp a i k → M inp (.star a) k j → M inp (.star a) i j
  | plus {a i k j} : M inp a i k → M inp (.star a) k j → M inp (.plus a) i j
  | bol : M inp .bol 0 0
  | eol : M inp .eol inp.size inp.size

theorem mem_dedupNat_foldl (l acc : List Nat) (x : Nat) :
    x ∈ l.foldl (fun acc x => if acc.contains x then acc else acc ++ [x]) acc ↔ x ∈ acc ∨ x ∈ l := by
  induction l generalizing acc with
  | nil => simp
  | cons y l ih =>
    have hy : x ∈ (if acc.contains y then acc else acc ++ [y]) ↔ x ∈ acc ∨ x = y := by
      split
      · rename_i h; exact (or_iff_left_of_imp fun e => e ▸ List.contains_iff_mem.1 h).symm
      · simp
    rw [List.foldl_cons, ih, hy, List.mem_cons, or_assoc]

@[simp] theorem mem_dedupNat (l : List Nat) (x : Nat) : x ∈ dedupNat l ↔ x ∈ l := by
  unfold dedupNat; rw [mem_dedupNat_foldl]; simp

theorem ends_sound (inp : Array Char) : ∀ n r i j, j ∈ ends inp n r i → M inp r i j := by
  intro n
  induction n with
  | zero => intro r i j h; simp [ends] at h
  | succ n ih =>
    intro r i j h
    cases r with
    | eps => simp [ends] at h; subst h; exact .eps _
    | chr | any | cls =>
      simp only [ends, List.mem_dite_nil_right, List.mem_ite_nil_right, List.mem_singleton] at h
      obtain ⟨hlt, hc, rfl⟩ := h
      constructor
      exact hc
    | seq a b =>
      simp only [ends, mem_dedupNat, List.mem_flatMap] at h
      obtain ⟨k, hk, hj⟩ := h
      exact .seq (ih _ _ _ hk) (ih _ _ _ hj)
    | alt a b =>
      simp only [ends, mem_dedupNat, List.mem_append] at h
      exact h.elim (fun h => .altL (ih _ _ _ h)) (fun h => .altR (ih _ _ _ h))
    | opt a =>
      simp only [ends, mem_dedupNat, List.mem_cons] at h
      rcases h with rfl | h
      · exact .optNone _
      · exact .optSome (ih _ _ _ h)
    | star a =>
      simp only [ends, mem_dedupNat, List.mem_cons, List.mem_flatMap, List.mem_filter] at h
      rcases h with rfl | ⟨k, ⟨hk, _⟩, hj⟩
      · exact .starNil _
      · exact .starCons (ih _ _ _ hk) (ih _ _ _ hj)
    | plus a =>
      simp only [ends, mem_dedupNat, List.mem_flatMap] at h
      obtain ⟨k, hk, hj⟩ := h
      exact .plus (ih _ _ _ hk) (ih _ _ _ hj)
    | bol | eol =>
      simp only [ends, List.mem_ite_nil_right, List.mem_singleton] at h
      obtain ⟨rfl, rfl⟩ := h
      constructor

theorem M_le {inp : Array Char} {r i j} (h : M inp r i j) : i ≤ j ∧ (i ≤ inp.size → j ≤ inp.size) := by
  induction h with
  | eps | optNone | starNil | bol | eol => exact ⟨Nat.le_refl _, id⟩
  | chr _ _ h | any _ h | cls _ _ _ h => exact ⟨Nat.le_succ _, fun _ => h⟩
  | altL _ ih | altR _ ih | optSome _ ih => exact ih
  | seq _ _ ih1 ih2 | starCons _ _ ih1 ih2 | plus _ _ ih1 ih2 =>
    exact ⟨Nat.le_trans ih1.1 ih2.1, fun h => ih2.2 (ih1.2 h)⟩

/-- fuel that suffices for `ends` on `r` with `k` characters remaining -/
def need : Rx → Nat → Nat
  | .seq a b, k => need a k + need b k + 1
  | .alt a b, k => need a k + need b k + 1
  | .opt a, k => need a k + 1
  | .star a, k => need a k + k + 1
  | .plus a, k => need a k + k + 2
  | _, _ => 1

theorem need_pos (r : Rx) (k : Nat) : 0 < need r k := by
  cases r <;> exact Nat.succ_pos _

theorem need_mono (r : Rx) {k k' : Nat} (h : k ≤ k') : need r k ≤ need r k' := by
  induction r with
  | seq a b iha ihb | alt a b iha ihb => exact Nat.succ_le_succ (Nat.add_le_add iha ihb)
  | opt a ih => exact Nat.succ_le_succ ih
  | star a ih => exact Nat.succ_le_succ (Nat.add_le_add ih h)
  | plus a ih => exact Nat.succ_le_succ (Nat.succ_le_succ (Nat.add_le_add ih h))
  | _ => exact Nat.le_refl _

/-- what is left of the input after a match needs no more fuel than what was there before it -/
theorem need_after {inp : Array Char} {a i k} (h : M inp a i k) (b : Rx) :
    need b (inp.size - k) ≤ need b (inp.size - i) :=
  need_mono b (Nat.sub_le_sub_left (M_le h).1 _)

/-- `need` is positive, so fuel that suffices is a successor -/
theorem ends_of_succ {inp : Array Char} {r i j}
    (H : ∀ n, i ≤ inp.size → need r (inp.size - i) ≤ n + 1 → j ∈ ends inp (n + 1) r i) :
    ∀ n, i ≤ inp.size → need r (inp.size - i) ≤ n → j ∈ ends inp n r i
  | 0, _, hn => absurd hn (Nat.not_le_of_gt (need_pos r _))
  | n + 1, hi, hn => H n hi hn

theorem ends_complete {inp : Array Char} {r i j} (h : M inp r i j) :
    ∀ n, i ≤ inp.size → need r (inp.size - i) ≤ n → j ∈ ends inp n r i := by
  induction h with refine ends_of_succ fun n hi hn => ?_
  | eps | optNone | starNil | bol | eol => simp [ends]
  | chr _ _ h hc | any _ h hc | cls _ _ _ h hc => simp [ends, h, hc]
  | @seq a b i k j h1 _ ih1 ih2 =>
    have hn : need a _ + need b _ ≤ n := Nat.le_of_succ_le_succ hn
    simp only [ends, mem_dedupNat, List.mem_flatMap]
    exact ⟨k, ih1 n hi (Nat.le_trans (Nat.le_add_right ..) hn), ih2 n ((M_le h1).2 hi)
      (Nat.le_trans (need_after h1 b) (Nat.le_trans (Nat.le_add_left ..) hn))⟩
  | altL _ ih =>
    simp only [ends, mem_dedupNat, List.mem_append]
    exact Or.inl (ih n hi (Nat.le_trans (Nat.le_add_right ..) (Nat.le_of_succ_le_succ hn)))
  | altR _ ih =>
    simp only [ends, mem_dedupNat, List.mem_append]
    exact Or.inr (ih n hi (Nat.le_trans (Nat.le_add_left ..) (Nat.le_of_succ_le_succ hn)))
  | optSome _ ih =>
    simp only [ends, mem_dedupNat, List.mem_cons]
    exact Or.inr (ih n hi (Nat.le_of_succ_le_succ hn))
  | @starCons a i k j h1 _ ih1 ih2 =>
    -- an empty iteration changes nothing; a non-empty one leaves less input, which is what the summand `k` of `need` pays for
    rcases Nat.eq_or_lt_of_le (M_le h1).1 with rfl | hik
    · exact ih2 (n + 1) hi hn
    · have hn : need a _ + _ ≤ n := Nat.le_of_succ_le_succ hn
      have hk := (M_le h1).2 hi
      have hlt := Nat.sub_lt_sub_left (Nat.lt_of_lt_of_le hik hk) hik
      simp only [ends, mem_dedupNat, List.mem_cons, List.mem_flatMap, List.mem_filter, decide_eq_true_eq]
      exact Or.inr ⟨k, ⟨ih1 n hi (Nat.le_trans (Nat.le_add_right ..) hn), hik⟩,
        ih2 n hk (Nat.le_trans (Nat.add_lt_add_of_le_of_lt (need_after h1 a) hlt) hn)⟩
  | @plus a i k j h1 _ ih1 ih2 =>
    have hn : need (.star a) _ ≤ n := Nat.le_of_succ_le_succ hn
    simp only [ends, mem_dedupNat, List.mem_flatMap]
    exact ⟨k, ih1 n hi (Nat.le_trans (Nat.le_succ_of_le (Nat.le_add_right ..)) hn),
      ih2 n ((M_le h1).2 hi) (Nat.le_trans (need_after h1 _) hn)⟩

theorem need_le (r : Rx) (k : Nat) : need r k ≤ rxSize r * (k + 2) := by
  induction r with
  | seq a b iha ihb | alt a b iha ihb => rw [need, rxSize, Nat.succ_mul, Nat.add_mul]; omega
  | opt a ih | star a ih | plus a ih => rw [need, rxSize, Nat.succ_mul]; omega
  | _ => exact Nat.mul_le_mul (Nat.le_refl 1) (Nat.le_add_left 1 (k + 1))

/-- the fuel `isMatch` gives `ends` is enough at every start position -/
theorem fuel_enough (r : Rx) (len i : Nat) : need r (len - i) ≤ (rxSize r + 2) * (len + 2) + 8 :=
  calc need r (len - i) ≤ rxSize r * (len - i + 2) := need_le r _
    _ ≤ (rxSize r + 2) * (len + 2) :=
      Nat.mul_le_mul (Nat.le_add_right ..) (Nat.add_le_add_right (Nat.sub_le ..) 2)
    _ ≤ _ := Nat.le_add_right ..

/-- `Regex::is_match`, the model's matcher, finds a match iff one exists -/
theorem isMatch_iff (r : Rx) (s : Str) :
    isMatch r s = true ↔ ∃ i j, i ≤ s.length ∧ M s.toArray r i j := by
  simp only [isMatch, List.any_eq_true, List.mem_range, Bool.not_eq_true', List.isEmpty_eq_false_iff_exists_mem]
  constructor
  · rintro ⟨i, hi, j, hj⟩
    exact ⟨i, j, Nat.le_of_lt_succ hi, ends_sound _ _ _ _ _ hj⟩
  · rintro ⟨i, j, hi, hm⟩
    exact ⟨i, Nat.lt_succ_of_le hi, j, ends_complete hm _ hi (fuel_enough r s.length i)⟩

/-- the textbook language of an expression without `^`/`$` -/
inductive L : Rx → List Char → Prop
  | eps : L .eps []
  | chr (c) : L (.chr c) [c]
  | any (c) : c ≠ '\n' → L .any [c]
  | cls (neg items c) : clsMatch neg items c = true → L (.cls neg items) [c]
  | seq {a b u v} : L a u → L b v → L (.seq a b) (u ++ v)
  | altL {a b u} : L a u → L (.alt a b) u
  | altR {a b u} : L b u → L (.alt a b) u
  | optNone {a} : L (.opt a) []
  | optSome {a u} : L a u → L (.opt a) u
  | starNil {a} : L (.star a) []
  | starCons {a u v} : L a u → L (.star a) v → L (.star a) (u ++ v)
  | plus {a u v} : L a u → L (.star a) v → L (.plus a) (u ++ v)

def anchorFree : Rx → Bool
  | .seq a b | .alt a b => anchorFree a && anchorFree b
  | .star a | .plus a | .opt a => anchorFree a
  | .bol | .eol => false
  | _ => true

/-- A word of the language matches wherever it occurs. The end position is written as a length, so that the positions of
consecutive words agree up to associativity of `++`. -/
theorem M_of_L {r : Rx} {w : List Char} (h : L r w) :
    ∀ pre post : List Char, M (pre ++ (w ++ post)).toArray r pre.length (pre ++ w).length := by
  induction h with intro pre post
  | eps | optNone | starNil => rw [List.append_nil]; constructor
  | chr c => rw [List.length_append]; exact .chr c _ (by simp) (by simp)
  | any c hc => rw [List.length_append]; exact .any _ (by simp) (by simpa using hc)
  | cls neg items c hc => rw [List.length_append]; exact .cls neg items _ (by simp) (by simpa using hc)
  | altL _ ih => exact .altL (ih pre post)
  | altR _ ih => exact .altR (ih pre post)
  | optSome _ ih => exact .optSome (ih pre post)
  | @seq _ _ u v _ _ ih1 ih2 | @starCons _ u v _ _ ih1 ih2 | @plus _ u v _ _ ih1 ih2 =>
    have h1 := ih1 pre (v ++ post)
    have h2 := ih2 (pre ++ u) post
    simp only [List.append_assoc] at h2 ⊢
    constructor <;> assumption

/-- the piece of `s` between positions `i` and `j` -/
def piece (s : List Char) (i j : Nat) : List Char := (s.drop i).take (j - i)

theorem piece_self (s : List Char) (i : Nat) : piece s i i = [] := by simp [piece]
theorem piece_one (inp : Array Char) {i : Nat} (h : i < inp.size) : piece inp.toList i (i + 1) = [inp[i]] := by
  rw [piece, List.drop_eq_getElem_cons (by simpa using h), Nat.add_sub_cancel_left]
  rfl
theorem piece_append (s : List Char) {i k j : Nat} (h1 : i ≤ k) (h2 : k ≤ j) :
    piece s i j = piece s i k ++ piece s k j := by
  unfold piece
  rw [← Nat.sub_add_sub_cancel h2 h1, Nat.add_comm, List.take_add, List.drop_drop, Nat.add_sub_of_le h1]

theorem L_of_M {inp : Array Char} {r : Rx} {i j : Nat} (h : M inp r i j) :
    anchorFree r = true → L r (piece inp.toList i j) := by
  induction h with intro ha
  | eps | optNone | starNil => rw [piece_self]; constructor
  | chr c i h hc => rw [piece_one inp h, hc]; exact .chr c
  | any i h hc => rw [piece_one inp h]; exact .any _ hc
  | cls neg items i h hc => rw [piece_one inp h]; exact .cls neg items _ hc
  | seq h1 h2 ih1 ih2 =>
    simp only [anchorFree, Bool.and_eq_true] at ha
    rw [piece_append _ (M_le h1).1 (M_le h2).1]
    exact .seq (ih1 ha.1) (ih2 ha.2)
  | altL _ ih => simp only [anchorFree, Bool.and_eq_true] at ha; exact .altL (ih ha.1)
  | altR _ ih => simp only [anchorFree, Bool.and_eq_true] at ha; exact .altR (ih ha.2)
  | optSome _ ih => exact .optSome (ih ha)
  | starCons h1 h2 ih1 ih2 | plus h1 h2 ih1 ih2 =>
    rw [piece_append _ (M_le h1).1 (M_le h2).1]
    constructor
    · exact ih1 ha
    · exact ih2 ha
  | bol | eol => cases ha

theorem piece_all (s : List Char) : piece s 0 s.length = s := by simp [piece]

theorem split3 (s : List Char) {i j : Nat} (hij : i ≤ j) : s = s.take i ++ piece s i j ++ s.drop j := by
  have h : s.drop j = (s.drop i).drop (j - i) := by rw [List.drop_drop, Nat.add_sub_of_le hij]
  rw [h, List.append_assoc, piece, List.take_append_drop, List.take_append_drop]

/-- `^(?:r)$` matches only from the start to the end of the input -/
theorem M_anchored {inp : Array Char} {r : Rx} {i j : Nat} (h : M inp (anchored r) i j) : M inp r 0 inp.size := by
  cases h with | seq h heol =>
  cases h with | seq h hr =>
  cases h with | seq heps hbol =>
  cases heps; cases hbol; cases heol
  exact hr

/-- `match`: the anchored expression matches iff the whole string is in the language -/
theorem match_whole (r : Rx) (hr : anchorFree r = true) (s : Str) :
    isMatch (anchored r) s = true ↔ L r s := by
  rw [isMatch_iff]
  constructor
  · rintro ⟨i, j, _, hm⟩
    exact piece_all s ▸ L_of_M (M_anchored hm) hr
  · intro hl
    have h : M s.toArray r 0 s.length := by simpa using M_of_L hl [] []
    exact ⟨0, s.length, Nat.zero_le _, .seq (.seq (.seq (.eps 0) .bol) h) .eol⟩

/-- `search`: the expression matches somewhere iff some substring is in the language -/
theorem search_substring (r : Rx) (hr : anchorFree r = true) (s : Str) :
    isMatch r s = true ↔ ∃ pre w post, s = pre ++ w ++ post ∧ L r w := by
  rw [isMatch_iff]
  constructor
  · rintro ⟨i, j, -, hm⟩
    exact ⟨s.take i, piece s i j, s.drop j, split3 s (M_le hm).1, L_of_M hm hr⟩
  · rintro ⟨pre, w, post, rfl, hl⟩
    exact ⟨pre.length, (pre ++ w).length, by simp, List.append_assoc .. ▸ M_of_L hl pre post⟩

/-- `regexFn` on a pattern that parses is the matcher's answer, on the anchored expression for `match` -/
theorem regexFn_ok (s p : Str) (r : Rx) (sub : Bool) (hp : parse p = .ok r) :
    regexFn s p sub = .yes ↔ isMatch (if sub then r else anchored r) s = true := by
  unfold regexFn
  rw [hp]
  by_cases h : isMatch (if sub then r else anchored r) s = true <;> simp [h]

end Re
end JP
