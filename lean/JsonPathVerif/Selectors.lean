import JsonPathVerif.Nodes
import JsonPathVerif.C11
/-! Index and slice selectors and the descendant walk, pointer by pointer, against RFC 9535; and that no selector, segment or
query ever returns an owned value, so that `js_path_process` cannot fail. -/
namespace JP

/-- the index selector on one pointer, in normal form: the position `implIndex` computes (C11: the RFC's, C08: without
overflow), then the element there -/
theorem processIndex_eq (i : Int) (p : Ptr) : processIndex i p =
    match p.inner with
    | .arr xs => .ofOpt ((implIndex i xs.length).bind fun k => xs[k]?.map fun x => Ptr.idx x p.loc p.path k)
    | _ => .nothing := by
  unfold processIndex implIndex
  cases p.inner <;> try rfl
  rename_i xs
  by_cases h : i ≥ 0
  · by_cases h2 : i ≥ (xs.length : Int)
    · simp only [h, h2, if_true]; rfl
    · simp only [h, h2, if_true, if_false, Option.bind_some]; cases xs[i.toNat]? <;> rfl
  · by_cases h2 : i.natAbs > xs.length
    · simp only [h, h2, if_true, if_false]; rfl
    · simp only [h, h2, if_false, Option.bind_some]; cases xs[xs.length - i.natAbs]? <;> rfl

/-- `Spec.selIndex` is the index selector of `SpecS.index` (the two transcriptions of RFC 9535 2.3.3.2 agree) -/
theorem Spec.selIndex_eq (i : Int) (n : Spec.Node) : Spec.selIndex i n =
    match n.2 with
    | .arr xs => ((SpecS.index i xs.length).bind fun j => xs[j.toNat]?.map fun x => ((n.1 ++ [.idx j.toNat], x) : Spec.Node)).toList
    | _ => [] := by
  unfold Spec.selIndex SpecS.index
  cases n.2 <;> try rfl
  rename_i xs
  dsimp only
  generalize (if i ≥ 0 then i else (xs.length : Int) + i) = j
  by_cases h : 0 ≤ j ∧ j < (xs.length : Int)
  · simp only [h, decide_true, Bool.and_self, if_true, and_self, Option.bind_some]
    cases xs[j.toNat]? <;> rfl
  · rw [if_neg h, if_neg (by simpa using h)]; rfl

theorem processIndex_spec (E : Engine) (root : Json) (i : Int) (p : Ptr) :
    nodesOf (processIndex i p) = Spec.sel E root (.index i) (toN p) := by
  obtain ⟨loc, j, path⟩ := p
  rw [Spec.sel, Spec.selIndex_eq, processIndex_eq]
  cases j <;> try rfl
  rename_i xs
  show nodesOf (Data.ofOpt _) = ((SpecS.index i xs.length).bind _).toList
  rw [← implIndex_spec]
  cases implIndex i xs.length <;> try rfl
  rename_i k
  simp only [Option.bind_some, Option.map_some, Int.toNat_natCast]
  cases xs[k]? <;> rfl

theorem processKey_sq (raw : Str) (p : Ptr) : (processKey raw p).sqShape := by
  unfold processKey; split <;> trivial

theorem processIndex_sq (i : Int) (p : Ptr) : (processIndex i p).sqShape := by
  rw [processIndex_eq]; split
  · exact Data.ofOpt_sq _
  · trivial

theorem processSlice_spec (E : Engine) (root : Json) (a b c : Option Int) (p : Ptr) :
    nodesOf (processSlice a b c p) = Spec.sel E root (.slice a b c) (toN p) := by
  unfold processSlice Spec.sel
  cases hv : p.inner <;> simp only [hv, nodesOf, Data.toVec, List.map_nil]
  rename_i xs
  rw [List.map_filterMap]
  congr 1; funext i
  cases xs[i.toNat]? <;> rfl

theorem processSlice_shaped (a b c : Option Int) (p : Ptr) : (processSlice a b c p).shaped := by
  unfold processSlice; cases p.inner <;> simp

mutual
theorem descendant_spec : ∀ (j : Json) (loc : Loc) (path : Str),
    (descendant ⟨loc, j, path⟩ j).toVec.map toN = cont (Spec.desc loc j)
  | .null, _, _ | .bool _, _, _ | .num _, _, _ | .str _, _, _ => by simp [descendant, Spec.desc, Data.toVec, cont]
  | .arr xs, loc, path => by
      have ih := descList_spec xs loc path 0
      simp [descendant, Spec.desc, Data.reduce, Data.toVec, cont, toN] at ih ⊢
      exact ih
  | .obj kvs, loc, path => by
      have ih := descMembers_spec kvs loc path
      simp [descendant, Spec.desc, Data.reduce, Data.toVec, cont, toN] at ih ⊢
      exact ih
theorem descList_spec : ∀ (xs : List Json) (loc : Loc) (path : Str) (i : Nat),
    (descList loc path i xs).map toN = cont (Spec.descL loc i xs)
  | [], loc, path, i => by simp [descList, Spec.descL, cont]
  | x :: xs, loc, path, i => by
      have h1 := descendant_spec x (loc ++ [Step.idx i]) (path ++ ['['] ++ natStr i ++ [']'])
      have h2 := descList_spec xs loc path (i+1)
      simp [descList, Spec.descL, cont, Ptr.idx] at h1 h2 ⊢
      rw [h1, h2]
theorem descMembers_spec : ∀ (kvs : List (Str × Json)) (loc : Loc) (path : Str),
    (descMembers loc path kvs).map toN = cont (Spec.descM loc kvs)
  | [], loc, path => by simp [descMembers, Spec.descM, cont]
  | (k, v) :: kvs, loc, path => by
      have h1 := descendant_spec v (loc ++ [Step.key k]) (Ptr.key v loc k path k).path
      have h2 := descMembers_spec kvs loc path
      simp [descMembers, Spec.descM, cont, Ptr.key] at h1 h2 ⊢
      rw [h1, h2]
end

theorem processDescendant_spec (p : Ptr) :
    nodesOf (processDescendant p) = cont (Spec.desc p.loc p.inner) :=
  descendant_spec p.inner p.loc p.path

section
variable (E : Engine) (root : Json)

/-! What a selector or segment returns is never an owned value, whatever the query and the input. -/

theorem Selector.process_shaped (s : Selector) (d : Data) : (s.process E root d).shaped := by
  cases s <;> refine Data.shaped_flatMap _ d fun p => ?_
  · exact shaped_of_sq _ (processKey_sq _ p)
  · exact processWildcard_shaped p
  · exact shaped_of_sq _ (processIndex_sq _ p)
  · exact processSlice_shaped _ _ _ p
  · cases p.inner <;> trivial

theorem Selector.processAll_shaped : ∀ (ss : List Selector) (d : Data), (Selector.processAll E root ss d).shaped
  | [], _ => trivial
  | [s], d => s.process_shaped E root d
  | _ :: _ :: _, _ => Data.shaped_reduce _ _

theorem Segment.process_shaped : ∀ (s : Segment) (d : Data), (s.process E root d).shaped
  | .descendant s, _ => Segment.process_shaped s _
  | .selector s, d => s.process_shaped E root d
  | .selectors ss, d => Selector.processAll_shaped E root ss d

theorem Segment.processList_shaped : ∀ (ss : List Segment) (d : Data), d.shaped → (Segment.processList E root ss d).shaped
  | [], _, h => h
  | s :: ss, d, _ => Segment.processList_shaped ss _ (s.process_shaped E root d)

/-- `js_path_process` returns the final state's pointers; it fails only on an owned value, which a segment list never yields -/
theorem jsPathProcess_ok (segs : List Segment) :
    jsPathProcess E segs root = .ok (Segment.processList E root segs (rootData root)).toVec := by
  have h := Segment.processList_shaped E root segs (rootData root) trivial
  unfold jsPathProcess
  cases hr : Segment.processList E root segs (rootData root) with
  | value v => rw [hr] at h; exact absurd h id
  | _ => rfl

end

#print axioms processIndex_spec
#print axioms processSlice_spec
#print axioms processDescendant_spec
end JP
