import JsonPathVerif.Spec
/-! C04: the evaluator's comparison of two states is the RFC 9535 comparison of the values they denote. -/
namespace JP

def Json.isScalar : Json → Bool
  | .arr _ => false | .obj _ => false | _ => true

/-- the evaluator compares numbers as the RFC does, by cross-multiplication of exact values -/
theorem Num.exactEq_eq (a b : Num) : a.exactEq b = Spec.numEq a b := by cases a <;> cases b <;> rfl
theorem Num.lt_eq (a b : Num) : a.lt b = Spec.numLt a b := by cases a <;> cases b <;> rfl

/-- the member search for a fixed left value, given that `eqJson` is right at that value.  Stated apart so that the mutual block below
recurses structurally on its first argument only (the search recurses on the right-hand member list) -/
theorem eqJsonFind_of (k : Str) (x : Json) (h : ∀ y, eqJson x y = Spec.jsonEq x y) :
    ∀ ys, eqJsonFind k x ys = Spec.jsonFind k x ys
  | [] => by simp [eqJsonFind, Spec.jsonFind]
  | (k', y) :: ys => by simp [eqJsonFind, Spec.jsonFind, h, eqJsonFind_of k x h ys]

mutual
theorem eqJson_spec : ∀ (a b : Json), eqJson a b = Spec.jsonEq a b
  | .null, b | .bool _, b | .str _, b => by cases b <;> simp [eqJson, Spec.jsonEq]
  | .num x, b => by cases b <;> simp [eqJson, Spec.jsonEq, Num.exactEq_eq]
  | .arr xs, b => by
      cases b <;> simp [eqJson, Spec.jsonEq]
      exact eqJsonL_spec xs _
  | .obj xs, b => by
      cases b <;> simp [eqJson, Spec.jsonEq]
      rw [eqJsonSub_spec]
theorem eqJsonL_spec : ∀ (xs ys : List Json), eqJsonL xs ys = Spec.jsonEqL xs ys
  | [], ys => by cases ys <;> simp [eqJsonL, Spec.jsonEqL]
  | x :: xs, ys => by
      cases ys with
      | nil => simp [eqJsonL, Spec.jsonEqL]
      | cons y ys => simp [eqJsonL, Spec.jsonEqL, eqJson_spec x y, eqJsonL_spec xs ys]
theorem eqJsonSub_spec : ∀ (xs ys : List (Str × Json)), eqJsonSub xs ys = Spec.jsonSubM xs ys
  | [], ys => by simp [eqJsonSub, Spec.jsonSubM]
  | (k, x) :: xs, ys => by
      simp [eqJsonSub, Spec.jsonSubM, eqJsonFind_of k x (eqJson_spec x) ys, eqJsonSub_spec xs ys]
end

theorem eqJsonFind_spec : ∀ (k : Str) (x : Json) (ys : List (Str × Json)), eqJsonFind k x ys = Spec.jsonFind k x ys :=
  fun k x => eqJsonFind_of k x (eqJson_spec x)

theorem Spec.numEq_comm (a b : Num) : Spec.numEq a b = Spec.numEq b a := Bool.beq_comm

theorem jsonEq_scalar_symm (v x : Json) (hv : v.isScalar = true) : Spec.jsonEq v x = Spec.jsonEq x v := by
  cases v <;> cases x <;> simp_all [Spec.jsonEq, Json.isScalar, Bool.beq_comm, Spec.numEq_comm]

/-- the value a comparable denotes, if its state is a value, a single node, or nothing -/
def dataVal : Data → Option Json
  | .ref p => some p.inner
  | .value v => some v
  | _ => none

/-- states a comparable can evaluate to: no `refs`, and owned values are scalars -/
def Data.cmpShape : Data → Prop
  | .refs _ => False
  | .value v => v.isScalar = true
  | _ => True

theorem ltJson_spec (a b : Json) : ltJson a b = Spec.ltOpt (some a) (some b) := by
  cases a <;> cases b <;> first | rfl | exact Num.lt_eq _ _

theorem Spec.ltOpt_none (a : Option Json) : Spec.ltOpt a none = false := by
  unfold Spec.ltOpt; split <;> first | rfl | contradiction

theorem eqData_spec (l r : Data) (hl : l.cmpShape) (hr : r.cmpShape) :
    eqData l r = Spec.eqOpt (dataVal l) (dataVal r) := by
  cases l <;> cases r <;> simp_all [eqData, dataVal, Data.cmpShape, eqJson_spec, Spec.eqOpt]
  all_goals (apply jsonEq_scalar_symm; assumption)

/-- `<` needs no hypothesis on the states: a nodelist or nothing on either side is `none`, below and above nothing -/
theorem ltData_spec (l r : Data) : ltData l r = Spec.ltOpt (dataVal l) (dataVal r) := by
  cases l <;> cases r <;> first | exact ltJson_spec _ _ | rfl | exact (Spec.ltOpt_none _).symm

theorem cmpData_spec (op : CmpOp) (l r : Data) (hl : l.cmpShape) (hr : r.cmpShape) :
    cmpData op l r = Spec.cmp op (dataVal l) (dataVal r) := by
  unfold cmpData Spec.cmp
  cases op <;> simp [eqData_spec l r hl hr, ltData_spec]

#print axioms cmpData_spec
end JP
