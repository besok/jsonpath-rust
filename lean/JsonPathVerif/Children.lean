import JsonPathVerif.Eval
/-! The evaluator's notion of a child pointer (`childrenPtr`), and the descendant walk as a list function over the elements or members
of a container.
`zipIdxFrom` is core's `List.zipIdx`, so what is needed about positions comes from there. -/
namespace JP

theorem zipIdxFrom_eq {α} : ∀ (xs : List α) (i : Nat), zipIdxFrom xs i = xs.zipIdx i
  | [], _ => rfl
  | x :: xs, i => congrArg ((x, i) :: ·) (zipIdxFrom_eq xs (i+1))

theorem mem_childrenPtr_arr {p : Ptr} {xs : List Json} (h : p.inner = .arr xs) {c : Ptr} :
    c ∈ childrenPtr p ↔ ∃ x i, xs[i]? = some x ∧ Ptr.idx x p.loc p.path i = c := by
  simp only [childrenPtr, h, zipIdxFrom_eq, List.mem_map, Prod.exists, List.mk_mem_zipIdx_iff_getElem?]

theorem mem_childrenPtr_obj {p : Ptr} {kvs : List (Str × Json)} (h : p.inner = .obj kvs) {c : Ptr} :
    c ∈ childrenPtr p ↔ ∃ k v, (k, v) ∈ kvs ∧ Ptr.key v p.loc k p.path k = c := by
  simp only [childrenPtr, h, List.mem_map, Prod.exists]

/-- the structural `descendant`, as a list function over an index-zipped child list -/
theorem descList_eq (loc : Loc) (path : Str) : ∀ (xs : List Json) (i : Nat),
    descList loc path i xs = (xs.zipIdx i).flatMap fun xi => (descendant (Ptr.idx xi.1 loc path xi.2) xi.1).toVec
  | [], _ => rfl
  | x :: xs, i => by simp [descList, descList_eq loc path xs (i+1)]
theorem descMembers_eq (loc : Loc) (path : Str) : ∀ (kvs : List (Str × Json)),
    descMembers loc path kvs = kvs.flatMap fun kv => (descendant (Ptr.key kv.2 loc kv.1 path kv.1) kv.2).toVec
  | [] => rfl
  | (k, v) :: kvs => by simp [descMembers, descMembers_eq loc path kvs]

end JP
