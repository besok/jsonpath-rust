import JsonPathVerif.Names
import JsonPathVerif.Selectors
import JsonPathVerif.Compare
/-! The hypothesis of the refinement theorems, `okSegs`: names and string literals are escape-free (escapes are never decoded by the
crate, known finding KF-escapes), function calls are well-typed, no empty or doubled-descendant segment.  And singular queries
(`Comparable.sq`): name/index steps from one node, against `Spec.sqStep`. -/
namespace JP

def okLit : Literal → Prop
  | .str s => '\\' ∉ s
  | _ => True

def okSQ : SQSeg → Prop
  | .name raw => ∃ k, PlainName raw k
  | .index _ => True

mutual
def okSeg : Segment → Prop
  | .descendant (.descendant _) => False
  | .descendant (.selector s) => okSel s
  | .descendant (.selectors ss) => ss ≠ [] ∧ okSels ss
  | .selector s => okSel s
  | .selectors ss => ss ≠ [] ∧ okSels ss
def okSels : List Selector → Prop
  | [] => True
  | s :: ss => okSel s ∧ okSels ss
def okSel : Selector → Prop
  | .name raw => ∃ k, PlainName raw k
  | .filter f => okFlt f
  | _ => True
def okSegs : List Segment → Prop
  | [] => True
  | s :: ss => okSeg s ∧ okSegs ss
def okFlt : Filter → Prop
  | .or fs => okFlts fs
  | .and fs => okFlts fs
  | .atom a => okAtom a
def okFlts : List Filter → Prop
  | [] => True
  | f :: fs => okFlt f ∧ okFlts fs
def okAtom : FilterAtom → Prop
  | .filter e _ => okFlt e
  | .test t _ => okTest t
  | .cmp _ l r => okCmp l ∧ okCmp r
def okTest : Test → Prop
  | .rel ss => okSegs ss
  | .abs ss => okSegs ss
  | .fn f => okFnLogical f
def okCmp : Comparable → Prop
  | .lit l => okLit l
  | .sq _ segs => ∀ s ∈ segs, okSQ s
  | .fn f => okFnValue f
def okFnValue : TestFunction → Prop
  | .length a => okArgValue a
  | .count a => okArgNodes a
  | .value a => okArgNodes a
  | _ => False
def okFnLogical : TestFunction → Prop
  | .match a b => okArgValue a ∧ okArgValue b
  | .search a b => okArgValue a ∧ okArgValue b
  | .custom _ args => okArgsCustom args
  | _ => False
def okArgValue : FnArg → Prop
  | .lit l => okLit l
  | .test (.rel ss) => Spec.isSingularSegs ss = true ∧ okSegs ss
  | .test (.abs ss) => Spec.isSingularSegs ss = true ∧ okSegs ss
  | .test (.fn f) => okFnValue f
  | .filter _ => False
def okArgNodes : FnArg → Prop
  | .test (.rel ss) => okSegs ss
  | .test (.abs ss) => okSegs ss
  | _ => False
def okArgsCustom : List FnArg → Prop
  | [] => True
  | a :: as => okArgValue a ∧ okArgsCustom as
end

@[simp] theorem boolOf_dbool (b : Bool) : boolOf (dbool b) = b := rfl

/-! Singular queries: a state that is one node or nothing, read as `Option Node`. -/

def dataNode : Data → Option Spec.Node
  | .ref p => some (toN p)
  | _ => none

theorem sqShape_of_single (d : Data) (hs : d.shaped) (h : d.toVec.length ≤ 1) (hr : ∀ ps, d ≠ .refs ps) : d.sqShape := by
  cases d <;> simp_all [Data.sqShape]

theorem dataNode_of_sq (d : Data) (h : d.sqShape) : dataNode d = (nodesOf d).head? := by
  cases d <;> simp_all [Data.sqShape, dataNode, Data.toVec]

/-- a step that yields at most one node per node acts on `Option Node` as the head of its nodelist -/
theorem dataNode_flatMap {f : Ptr → Data} {g : Spec.Node → List Spec.Node} (hf : ∀ p, (f p).sqShape)
    (h : ∀ p, nodesOf (f p) = g (toN p)) {d : Data} (hd : d.sqShape) :
    dataNode (d.flatMap f) = (dataNode d).bind fun n => (g n).head? := by
  cases d with
  | ref p => exact (dataNode_of_sq _ (hf p)).trans (by rw [h]; rfl)
  | nothing => rfl
  | _ => exact absurd hd id

theorem processSQSeg_spec (E : Engine) (root : Json) (d : Data) (s : SQSeg) (hs : okSQ s) (hd : d.sqShape) :
    (processSQSeg d s).sqShape ∧ dataNode (processSQSeg d s) = Spec.sqStep (dataNode d) s := by
  cases s with
  | index i => exact ⟨Data.sqShape_flatMap _ d (processIndex_sq i) hd, dataNode_flatMap (processIndex_sq i) (processIndex_spec E root i) hd⟩
  | name raw =>
    obtain ⟨k, hk⟩ := hs
    exact ⟨Data.sqShape_flatMap _ d (processKey_sq raw) hd, dataNode_flatMap (processKey_sq raw) (processKey_spec hk E root) hd⟩

theorem singular_spec (E : Engine) (root : Json) : ∀ (segs : List SQSeg) (d : Data), (∀ s ∈ segs, okSQ s) → d.sqShape →
    (segs.foldl processSQSeg d).sqShape ∧ dataNode (segs.foldl processSQSeg d) = segs.foldl Spec.sqStep (dataNode d)
  | [], d, _, hd => ⟨hd, rfl⟩
  | s :: ss, d, hs, hd => by
    obtain ⟨h1, h2⟩ := processSQSeg_spec E root d s (hs s (.head _)) hd
    simpa only [List.foldl_cons, h2] using singular_spec E root ss _ (fun x hx => hs x (.tail _ hx)) h1

theorem dataVal_of_sq (d : Data) (h : d.sqShape) : dataVal d = (dataNode d).map (·.2) := by
  cases d <;> simp_all [Data.sqShape, dataVal, dataNode, toN]

theorem cmpShape_of_sq (d : Data) (h : d.sqShape) : d.cmpShape := by
  cases d <;> simp_all [Data.sqShape, Data.cmpShape]

end JP
