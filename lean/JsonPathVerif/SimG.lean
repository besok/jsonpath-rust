import JsonPathVerif.EvalG
import JsonPathVerif.Children
/-! Simulation: for any data type `T` with a `Queryable` structure `Q` and any *faithful view* `view : T → Json`, the generic
evaluator `EvalG` commutes with the view: viewing the result of evaluating over `T` is evaluating over the viewed document.
(Instantiating `T := Json`, `view := id` shows in particular that `EvalG` at the `serde_json::Value` instance IS `Eval`.) -/
namespace JP

mutual
def Json.depth : Json → Nat
  | .arr xs => depthL xs + 1
  | .obj kvs => depthM kvs + 1
  | _ => 0
def depthL : List Json → Nat
  | [] => 0
  | x :: xs => max x.depth (depthL xs)
def depthM : List (Str × Json) → Nat
  | [] => 0
  | (_, v) :: kvs => max v.depth (depthM kvs)
end

def asObj : Json → Option (List (Str × Json)) | .obj kvs => some kvs | _ => none
def asStrJ : Json → Option Str | .str s => some s | _ => none
def asBoolJ : Json → Option Bool | .bool b => some b | _ => none

/-- `view` is a faithful view of `T` as JSON: every accessor of the trait commutes with it -/
structure Faithful {T : Type} (Q : Queryable T) (view : T → Json) : Prop where
  asArray : ∀ t, (Q.asArray t).map (List.map view) = asArr (view t)
  asObject : ∀ t, (Q.asObject t).map (List.map fun kv => (kv.1, view kv.2)) = asObj (view t)
  get : ∀ t k, (Q.get t k).map (fun kv => (kv.1, view kv.2)) = valueGet (view t) k
  asStr : ∀ t, Q.asStr t = asStrJ (view t)
  num : ∀ t, Q.num t = numOf (view t)
  asBool : ∀ t, Q.asBool t = asBoolJ (view t)
  null : view Q.null = .null
  ofBool : ∀ b, view (Q.ofBool b) = .bool b
  ofI64 : ∀ i, view (Q.ofI64 i) = .num (.int i)
  ofF64 : ∀ n d, view (Q.ofF64 n d) = .num (.flt n d)
  ofStr : ∀ s, view (Q.ofStr s) = .str s
  beq : ∀ a b, Q.beq a b = (view a).beq (view b)
  ext : ∀ name args, view (Q.extensionCustom name args) = extensionCustom name (args.map view)
  depth : ∀ t, Q.depth t = (view t).depth

variable {T : Type} {Q : Queryable T} {view : T → Json}

def viewP (view : T → Json) (p : PtrG T) : Ptr := ⟨p.loc, view p.inner, p.path⟩
def viewD (view : T → Json) : DataG T → Data
  | .ref p => .ref (viewP view p)
  | .refs ps => .refs (ps.map (viewP view))
  | .value v => .value (view v)
  | .nothing => .nothing

@[simp] theorem viewD_ref (p : PtrG T) : viewD view (.ref p) = .ref (viewP view p) := rfl
@[simp] theorem viewD_refs (ps : List (PtrG T)) : viewD view (.refs ps) = .refs (ps.map (viewP view)) := rfl
@[simp] theorem viewD_value (v : T) : viewD view (.value v) = .value (view v) := rfl
@[simp] theorem viewD_nothing : viewD view (.nothing : DataG T) = .nothing := rfl
@[simp] theorem viewP_loc (p : PtrG T) : (viewP view p).loc = p.loc := rfl
@[simp] theorem viewP_inner (p : PtrG T) : (viewP view p).inner = view p.inner := rfl
@[simp] theorem viewP_path (p : PtrG T) : (viewP view p).path = p.path := rfl

theorem viewP_idx (x : T) (loc : Loc) (path : Str) (i : Nat) :
    viewP view (PtrG.idx x loc path i) = Ptr.idx (view x) loc path i := rfl
theorem viewP_empty (x : T) (loc : Loc) : viewP view (PtrG.empty x loc) = Ptr.empty (view x) loc := rfl
theorem viewP_isInternal (p : PtrG T) : (viewP view p).isInternal = p.isInternal := rfl

theorem viewD_toVec (d : DataG T) : (viewD view d).toVec = d.toVec.map (viewP view) := by
  cases d <;> rfl

theorem viewD_reduce (a b : DataG T) : viewD view (a.reduce b) = (viewD view a).reduce (viewD view b) := by
  cases a <;> cases b <;> first | rfl | exact congrArg Data.refs (List.map_append ..)

theorem viewD_flatMap (f : PtrG T → DataG T) (g : Ptr → Data) (h : ∀ p, viewD view (f p) = g (viewP view p)) (d : DataG T) :
    viewD view (d.flatMap f) = (viewD view d).flatMap g := by
  cases d with
  | ref p => exact h p
  | refs ps =>
    simp only [viewD, Data.flatMap, DataG.flatMap, List.map_flatMap, List.flatMap_map, Data.refs.injEq]
    congr 1; funext p
    rw [← h p, viewD_toVec]
  | value v => rfl
  | nothing => rfl

theorem flatMap_congr_mem {α β} {l : List α} {f g : α → List β} (h : ∀ a ∈ l, f a = g a) : l.flatMap f = l.flatMap g :=
  congrArg List.flatten (List.map_congr_left h)

theorem zipWith_congr_mem {α β γ} {f g : α → β → γ} {xs : List α} {ys : List β} (h : ∀ x ∈ xs, ∀ y, f x y = g x y) :
    List.zipWith f xs ys = List.zipWith g xs ys := by
  rw [← List.map_uncurry_zip_eq_zipWith, ← List.map_uncurry_zip_eq_zipWith]
  exact List.map_congr_left fun xy hxy => h _ (List.of_mem_zip hxy).1 _

theorem all_congr_mem {α} {p q : α → Bool} {l : List α} (h : ∀ a ∈ l, p a = q a) : l.all p = l.all q := by
  induction l with
  | nil => rfl
  | cons a l ih => rw [List.all_cons, List.all_cons, h a List.mem_cons_self, ih fun b hb => h b (List.mem_cons_of_mem _ hb)]

theorem depth_lt_arr {x : Json} : ∀ {xs : List Json}, x ∈ xs → x.depth < (Json.arr xs).depth
  | [], h => nomatch h
  | _ :: _, h => by
    rcases List.mem_cons.mp h with rfl | h
    · exact Nat.lt_succ_of_le (Nat.le_max_left _ _)
    · exact Nat.lt_of_lt_of_le (depth_lt_arr h) (Nat.succ_le_succ (Nat.le_max_right _ _))
theorem depth_lt_obj {kv : Str × Json} : ∀ {kvs : List (Str × Json)}, kv ∈ kvs → kv.2.depth < (Json.obj kvs).depth
  | [], h => nomatch h
  | _ :: _, h => by
    rcases List.mem_cons.mp h with rfl | h
    · exact Nat.lt_succ_of_le (Nat.le_max_left _ _)
    · exact Nat.lt_of_lt_of_le (depth_lt_obj h) (Nat.succ_le_succ (Nat.le_max_right _ _))

-- list forms of the structural equality of `Eval.lean`
theorem eqJsonL_zip : ∀ (xs ys : List Json), eqJsonL xs ys = (xs.length == ys.length && (List.zipWith eqJson xs ys).all id)
  | [], [] | [], _ :: _ | _ :: _, [] => by simp [eqJsonL]
  | x :: xs, y :: ys => by simp [eqJsonL, eqJsonL_zip xs ys, Bool.and_left_comm]
theorem eqJsonFind_any (k : Str) (x : Json) : ∀ (ys : List (Str × Json)), eqJsonFind k x ys = ys.any fun ky => k == ky.1 && eqJson x ky.2
  | [] => by simp [eqJsonFind]
  | (k', y) :: ys => by simp [eqJsonFind, eqJsonFind_any k x ys]
theorem eqJsonSub_all : ∀ (xs ys : List (Str × Json)), eqJsonSub xs ys = xs.all fun kx => ys.any fun ky => kx.1 == ky.1 && eqJson kx.2 ky.2
  | [], _ => by simp [eqJsonSub]
  | (k, x) :: xs, ys => by simp [eqJsonSub, eqJsonFind_any, eqJsonSub_all xs ys]
theorem eqArrays_eq : ∀ (xs ys : List Json), eqArrays xs ys = eqJsonL xs ys
  | [], [] | [], _ :: _ | _ :: _, [] => by simp [eqArrays, eqJsonL]
  | x :: xs, y :: ys => by simp [eqArrays, eqJsonL, eqArrays_eq xs ys]

theorem not_both_isSome {α} {o₁ o₂ : Option α} (h : ∀ x y, o₁ = some x → o₂ = some y → False) :
    o₁.isSome → o₂.isSome → False :=
  fun h₁ h₂ => h _ _ (Option.eq_some_of_isSome h₁) (Option.eq_some_of_isSome h₂)

theorem numOf_eq_some {j : Json} {x : Num} (h : numOf j = some x) : j = .num x := by
  cases j <;> simp_all [numOf]

/-- `eq_json` treats numbers, arrays and objects itself; on every other pair of values it is the type's own `==` -/
theorem eqJson_eq_beq {a b : Json} (hn : (numOf a).isSome → (numOf b).isSome → False)
    (ha : (asArr a).isSome → (asArr b).isSome → False) (ho : (asObj a).isSome → (asObj b).isSome → False) :
    eqJson a b = a.beq b := by
  unfold eqJson
  split
  · exact (hn rfl rfl).elim
  · exact (ha rfl rfl).elim
  · exact (ho rfl rfl).elim
  · rfl
  · rfl
  · rfl
  · rw [Json.beq] <;> assumption

theorem valueFnG_view (d : DataG T) : viewD view (valueFnG d) = valueFn (viewD view d) := by
  cases d with
  | refs ps => match ps with
    | [] | [_] | _ :: _ :: _ => rfl
  | _ => rfl

theorem argValuesG_view (d : DataG T) : (argValuesG d).map view = argValues (viewD view d) := by
  cases d <;> simp [argValuesG, argValues, Function.comp_def]

theorem presentOfG_view (d : DataG T) : presentOfG d = presentOf (viewD view d) := by
  cases d <;> simp [presentOfG, presentOf]

theorem rootDataG_view (root : T) : viewD view (rootDataG root) = rootData (view root) := rfl

section
variable (hf : Faithful Q view)
include hf

namespace Faithful

/-- Under a faithful view every value is an array, an object or neither, and the accessors and the view agree on which.
In the last case the two facts about `view t` are in the form in which `simp` finds them in the context to take the
catch-all branch of a `match view t with | .arr _ => … | .obj _ => … | _ => …`. -/
theorem shape (t : T) :
    (∃ xs, Q.asArray t = some xs ∧ Q.asObject t = none ∧ view t = .arr (xs.map view)) ∨
    (∃ kvs, Q.asArray t = none ∧ Q.asObject t = some kvs ∧ view t = .obj (kvs.map fun kv => (kv.1, view kv.2))) ∨
    (Q.asArray t = none ∧ Q.asObject t = none ∧ (∀ xs, view t ≠ .arr xs) ∧ (∀ kvs, view t ≠ .obj kvs)) := by
  have ha := hf.asArray t
  have ho := hf.asObject t
  cases h : view t <;> simp only [h, asArr, asObj, Option.map_eq_some_iff, Option.map_eq_none_iff] at ha ho
  case arr => obtain ⟨xs, h1, rfl⟩ := ha; exact .inl ⟨xs, h1, ho, rfl⟩
  case obj => obtain ⟨kvs, h1, rfl⟩ := ho; exact .inr (.inl ⟨kvs, ha, h1, rfl⟩)
  all_goals exact .inr (.inr ⟨ha, ho, nofun, nofun⟩)

theorem scalar {t : T} (h1 : asArr (view t) = none) (h2 : asObj (view t) = none) :
    Q.asArray t = none ∧ Q.asObject t = none :=
  ⟨Option.map_eq_none_iff.mp ((hf.asArray t).trans h1), Option.map_eq_none_iff.mp ((hf.asObject t).trans h2)⟩

theorem view_arr {t : T} {xs : List T} (h : Q.asArray t = some xs) : view t = .arr (xs.map view) := by
  rcases hf.shape t with ⟨_, h1, _, hv⟩ | ⟨_, h0, _⟩ | ⟨h0, _⟩ <;> simp_all
theorem view_obj {t : T} {kvs : List (Str × T)} (h : Q.asObject t = some kvs) :
    view t = .obj (kvs.map fun kv => (kv.1, view kv.2)) := by
  rcases hf.shape t with ⟨_, _, h0, _⟩ | ⟨_, _, h1, hv⟩ | ⟨_, h0, _⟩ <;> simp_all

theorem depth_arr {t x : T} {xs : List T} {n : Nat} (h : Q.asArray t = some xs) (hx : x ∈ xs) (ht : (view t).depth < n + 1) :
    (view x).depth < n := by
  rw [hf.view_arr h] at ht
  exact Nat.lt_of_lt_of_le (depth_lt_arr (List.mem_map_of_mem hx)) (Nat.le_of_lt_succ ht)
theorem depth_obj {t : T} {kv : Str × T} {kvs : List (Str × T)} {n : Nat} (h : Q.asObject t = some kvs) (hkv : kv ∈ kvs)
    (ht : (view t).depth < n + 1) : (view kv.2).depth < n := by
  rw [hf.view_obj h] at ht
  exact Nat.lt_of_lt_of_le (depth_lt_obj (List.mem_map_of_mem (f := fun kv => (kv.1, view kv.2)) hkv)) (Nat.le_of_lt_succ ht)

end Faithful

theorem childrenPtrG_view (p : PtrG T) : (childrenPtrG Q p).map (viewP view) = childrenPtr (viewP view p) := by
  unfold childrenPtrG childrenPtr
  rcases hf.shape p.inner with ⟨xs, h1, _, hv⟩ | ⟨kvs, h0, h1, hv⟩ | ⟨h0, h1, _, _⟩
  · simp only [h1, viewP_inner, hv, zipIdxFrom_eq, List.zipIdx_map, List.map_map]
    rfl
  · simp only [h0, h1, viewP_inner, hv, List.map_map]
    rfl
  · simp [h0, h1]

theorem processWildcardG_view (p : PtrG T) : viewD view (processWildcardG Q p) = processWildcard (viewP view p) := by
  have hc := childrenPtrG_view hf p
  unfold processWildcardG processWildcard
  rcases hf.shape p.inner with ⟨xs, h1, _, hv⟩ | ⟨kvs, h0, h1, hv⟩ | ⟨h0, h1, _, _⟩
  · simp only [h1, viewP_inner, hv, List.isEmpty_map, ← hc]
    cases xs.isEmpty <;> rfl
  · simp only [h0, h1, viewP_inner, hv, List.isEmpty_map, ← hc]
    cases kvs.isEmpty <;> rfl
  · simp [h0, h1]

theorem processSliceG_view (a b c : Option Int) (p : PtrG T) :
    viewD view (processSliceG Q a b c p) = processSlice a b c (viewP view p) := by
  unfold processSliceG processSlice
  rcases hf.shape p.inner with ⟨xs, h1, _, hv⟩ | ⟨kvs, h0, _, hv⟩ | ⟨h0, _, _, _⟩
  · simp only [h1, viewP_inner, hv, viewD, List.length_map, List.map_filterMap, List.getElem?_map, Data.refs.injEq]
    congr 1; funext i
    cases xs[i.toNat]? <;> rfl
  · simp [h0, hv]
  · simp [h0]

theorem processKeyG_view (k : Str) (p : PtrG T) : viewD view (processKeyG Q k p) = processKey k (viewP view p) := by
  unfold processKeyG processKey
  rw [viewP_inner, ← hf.get p.inner (normalizeKey k)]
  cases Q.get p.inner (normalizeKey k) <;> rfl

theorem processIndexG_view (i : Int) (p : PtrG T) : viewD view (processIndexG Q i p) = processIndex i (viewP view p) := by
  unfold processIndexG processIndex
  rcases hf.shape p.inner with ⟨xs, h1, _, hv⟩ | ⟨kvs, h0, _, hv⟩ | ⟨h0, _, _, _⟩
  · simp only [h1, viewP_inner, hv, List.length_map, List.getElem?_map, apply_ite (viewD view)]
    cases xs[i.toNat]? <;> cases xs[xs.length - i.natAbs]? <;> rfl
  · simp [h0, hv]
  · simp [h0]

theorem descendantFuel_view : ∀ (fuel : Nat) (p : PtrG T), (view p.inner).depth < fuel →
    viewD view (descendantFuel Q fuel p) = descendant (viewP view p) (view p.inner)
  | 0, _, h => nomatch h
  | fuel+1, p, hfuel => by
    -- the induction hypothesis over a list of children, be they the elements of an array or the members of an object
    have step {α : Type} (l : List α) (c : α → PtrG T) (hl : ∀ a ∈ l, (view (c a).inner).depth < fuel) :
        (l.flatMap fun a => (descendantFuel Q fuel (c a)).toVec).map (viewP view)
          = l.flatMap fun a => (descendant (viewP view (c a)) (view (c a).inner)).toVec := by
      rw [List.map_flatMap]
      refine flatMap_congr_mem fun a ha => ?_
      rw [← viewD_toVec, descendantFuel_view fuel (c a) (hl a ha)]
    rw [descendantFuel]
    rcases hf.shape p.inner with ⟨xs, h1, _, hv⟩ | ⟨kvs, h0, h1, hv⟩ | ⟨h0, h1, _, _⟩
    · simp only [h1, hv, descendant, descList_eq, zipIdxFrom_eq, List.zipIdx_map, List.flatMap_map, viewD_reduce, viewD_ref, viewD_refs]
      congr 2
      exact step xs.zipIdx (fun xi => PtrG.idx xi.1 p.loc p.path xi.2) fun xi hxi => hf.depth_arr h1 (List.fst_mem_of_mem_zipIdx hxi) hfuel
    · simp only [h0, h1, hv, descendant, descMembers_eq, List.flatMap_map, viewD_reduce, viewD_ref, viewD_refs]
      congr 2
      exact step kvs (fun kv => PtrG.key kv.2 p.loc kv.1 p.path kv.1) fun kv hkv => hf.depth_obj h1 hkv hfuel
    · simp [h0, h1, descendant]

theorem descendantG_view (p : PtrG T) : viewD view (descendantG Q p) = processDescendant (viewP view p) :=
  descendantFuel_view hf _ p (by rw [hf.depth]; omega)

theorem boolOfG_view (d : DataG T) : boolOfG Q d = boolOf (viewD view d) := by
  cases d with
  | value v => simp only [boolOfG, boolOf, viewD_value, hf.asBool]; cases view v <;> rfl
  | _ => rfl

theorem dboolG_view (b : Bool) : viewD view (dboolG Q b) = dbool b := by simp [dboolG, dbool, hf.ofBool]
theorem di64G_view (n : Nat) : viewD view (di64G Q n) = di64 n := by simp [di64G, di64, hf.ofI64]

section
variable (item : PtrG T → Bool) (item' : Ptr → Bool) (h : ∀ p, item p = item' (viewP view p))
include h

/-- the filter selector at one node: `filterChildrenWithG` is this function mapped over the nodes, `filterProcessWithG` likewise
after its test for a pointer without a path -/
theorem filterChildrenWithG_ref (p : PtrG T) :
    viewD view (filterChildrenWithG Q item (.ref p)) = filterChildrenWith item' (.ref (viewP view p)) := by
  have hc : ((childrenPtrG Q p).filter fun c => item (PtrG.empty c.inner c.loc)).map (viewP view)
      = (childrenPtr (viewP view p)).filter fun c => item' (Ptr.empty c.inner c.loc) := by
    rw [← childrenPtrG_view hf p, List.filter_map]
    congr 1
    exact List.filter_congr fun c _ => h _
  simp only [filterChildrenWithG, filterChildrenWith, DataG.flatMap, Data.flatMap]
  rcases hf.shape p.inner with ⟨xs, h1, _, hv⟩ | ⟨kvs, h0, h1, hv⟩ | ⟨h0, h1, _, _⟩
  · simp [h1, hv, hc]
  · simp [h0, h1, hv, hc]
  · simp [h0, h1]

theorem filterChildrenWithG_view (d : DataG T) :
    viewD view (filterChildrenWithG Q item d) = filterChildrenWith item' (viewD view d) :=
  viewD_flatMap _ _ (filterChildrenWithG_ref hf item item' h) d

theorem filterProcessWithG_view (d : DataG T) :
    viewD view (filterProcessWithG Q item d) = filterProcessWith item' (viewD view d) := by
  refine viewD_flatMap _ _ (fun p => ?_) d
  rw [viewP_isInternal]
  cases p.isInternal
  · exact filterChildrenWithG_ref hf item item' h p
  · simp [dboolG_view hf, h]

end

theorem eqJsonFuel_view : ∀ (fuel : Nat) (a b : T), (view a).depth < fuel →
    eqJsonFuel Q fuel a b = eqJson (view a) (view b)
  | 0, _, _, h => nomatch h
  | fuel+1, a, b, hfuel => by
    rw [eqJsonFuel]
    split
    · next x y hx hy =>
      rw [numOf_eq_some ((hf.num a).symm.trans hx), numOf_eq_some ((hf.num b).symm.trans hy), eqJson]
    · next hn =>
      split
      · next xs ys hxs hys =>
        rw [hf.view_arr hxs, hf.view_arr hys, eqJson, eqJsonL_zip, List.length_map, List.length_map, List.zipWith_map]
        congr 2
        exact zipWith_congr_mem fun x hx y => eqJsonFuel_view fuel x y (hf.depth_arr hxs hx hfuel)
      · next ha =>
        split
        · next xs ys hxs hys =>
          rw [hf.view_obj hxs, hf.view_obj hys, eqJson, eqJsonSub_all]
          simp only [List.length_map, List.all_map, List.any_map, Function.comp_def]
          congr 1
          refine all_congr_mem fun kx hkx => List.any_congr rfl fun ky => ?_
          rw [eqJsonFuel_view fuel kx.2 ky.2 (hf.depth_obj hxs hkx hfuel)]
        · next ho =>
          rw [hf.beq, eqJson_eq_beq]
          · rw [← hf.num, ← hf.num]; exact not_both_isSome hn
          · rw [← hf.asArray, ← hf.asArray, Option.isSome_map, Option.isSome_map]; exact not_both_isSome ha
          · rw [← hf.asObject, ← hf.asObject, Option.isSome_map, Option.isSome_map]; exact not_both_isSome ho

theorem eqJsonG_view (a b : T) : eqJsonG Q a b = eqJson (view a) (view b) :=
  eqJsonFuel_view hf _ a b (by rw [hf.depth]; omega)

theorem ltJsonG_view (a b : T) : ltJsonG Q a b = ltJson (view a) (view b) := by
  unfold ltJsonG ltJson
  rw [hf.num a, hf.num b, hf.asStr a, hf.asStr b]
  cases view a with
  | num _ | str _ => cases view b <;> rfl
  | _ => rfl

theorem ptrsEqG_view : ∀ (l r : List (PtrG T)), ptrsEqG Q l r = ptrsEq (l.map (viewP view)) (r.map (viewP view))
  | [], [] | [], _ :: _ | _ :: _, [] => rfl
  | a :: l, b :: r => by simp [ptrsEqG, ptrsEq, ptrEq, hf.beq, ptrsEqG_view l r]

theorem eqDataG_view (l r : DataG T) : eqDataG Q l r = eqData (viewD view l) (viewD view r) := by
  cases l with
  | value v => cases r with
    | value _ | ref _ => exact eqJsonG_view hf _ _
    | _ => rfl
  | ref p => cases r with
    | value _ | ref _ => exact eqJsonG_view hf _ _
    | refs ps =>
      simp only [eqDataG, eqData, viewD, viewP_inner]
      rcases hf.shape p.inner with ⟨xs, h1, _, hv⟩ | ⟨kvs, h0, _, hv⟩ | ⟨h0, _, _, _⟩
      · simp only [h1, hv, eqArrays_eq, eqJsonL_zip, List.length_map, List.zipWith_map_right, List.zipWith_map_left]
        congr 3
        funext x y
        exact eqJsonG_view hf x _
      · simp [h0, hv]
      · simp [h0]
    | nothing => rfl
  | refs ps => cases r with
    | refs qs => exact ptrsEqG_view hf ps qs
    | _ => rfl
  | nothing => cases r <;> rfl

theorem ltDataG_view (l r : DataG T) : ltDataG Q l r = ltData (viewD view l) (viewD view r) := by
  cases l <;> cases r <;> first | rfl | exact ltJsonG_view hf _ _

theorem cmpDataG_view (op : CmpOp) (l r : DataG T) : cmpDataG Q op l r = cmpData op (viewD view l) (viewD view r) := by
  cases op <;> simp only [cmpDataG, cmpData, eqDataG_view hf, ltDataG_view hf]

theorem literalValueG_view (l : Literal) : view (literalValueG Q l) = literalValue l := by
  cases l <;> simp only [literalValueG, literalValue, hf.ofI64, hf.ofF64, hf.ofStr, hf.ofBool, hf.null]

theorem processSQSegG_view (d : DataG T) (s : SQSeg) : viewD view (processSQSegG Q d s) = processSQSeg (viewD view d) s := by
  cases s with
  | index i => exact viewD_flatMap _ _ (processIndexG_view hf i) d
  | name k => exact viewD_flatMap _ _ (processKeyG_view hf k) d

theorem foldl_SQ_view : ∀ (segs : List SQSeg) (d : DataG T),
    viewD view (segs.foldl (processSQSegG Q) d) = segs.foldl processSQSeg (viewD view d)
  | [], _ => rfl
  | s :: segs, d => by simp only [List.foldl_cons, foldl_SQ_view segs, processSQSegG_view hf]

theorem lengthItemG_view (j : T) : viewD view (lengthItemG Q j) = lengthFn (.value (view j)) := by
  unfold lengthItemG lengthFn
  rw [hf.asStr]
  rcases hf.shape j with ⟨xs, h1, _, hv⟩ | ⟨kvs, h0, h1, hv⟩ | ⟨h0, h1, _, _⟩
  · simp [hv, asStrJ, h1, di64G_view hf]
  · simp [hv, asStrJ, h0, h1, di64G_view hf]
  · cases hv : view j <;> simp_all [asStrJ, di64G_view hf]

theorem lengthFnG_view (d : DataG T) : viewD view (lengthFnG Q d) = lengthFn (viewD view d) := by
  cases d with
  | ref _ | value _ => exact lengthItemG_view hf _
  | refs ps => simp [lengthFnG, lengthFn, di64G_view hf]
  | nothing => rfl

theorem countFnG_view (d : DataG T) : viewD view (countFnG Q d) = countFn (viewD view d) := by
  cases d <;> simp [countFnG, countFn, di64G_view hf]

theorem toStrDG_view (d : DataG T) : toStrDG Q d = toStrD (viewD view d) := by
  cases d with
  | value v => simp only [toStrDG, toStrD, viewD_value, hf.asStr]; cases view v <;> rfl
  | ref p => exact hf.asStr p.inner
  | _ => rfl

theorem toPatDG_view (d : DataG T) : toPatDG Q d = toPatD (viewD view d) := by
  cases d with
  | value v => simp only [toPatDG, toPatD, viewD_value, hf.asStr]; cases view v <;> rfl
  | ref p => exact hf.asStr p.inner
  | _ => rfl

variable (E : Engine) (root : T)

/-- a filter `f` as the test that `filterProcessWithG` applies at each node, given that `f.elemG` commutes with the view -/
theorem filterProcessWithG_elem (f : Filter)
    (ih : ∀ d, viewD view (f.elemG Q E root d) = f.elem E (view root) (viewD view d)) (d : DataG T) :
    viewD view (filterProcessWithG Q (fun p => boolOfG Q (f.elemG Q E root (.ref p))) d)
      = filterProcessWith (fun p => boolOf (f.elem E (view root) (.ref p))) (viewD view d) :=
  filterProcessWithG_view hf _ _ (fun p => by rw [boolOfG_view hf, ih]; rfl) d

theorem regexG_view (s p : Option Str) (sub : Bool) :
    viewD view (match s, p with | some s, some p => dboolG Q (E.regexFn s p sub) | _, _ => dboolG Q false)
      = match s, p with | some s, some p => dbool (E.regexFn s p sub) | _, _ => dbool false := by
  cases s <;> cases p <;> exact dboolG_view hf _

mutual
theorem Segment.processG_view : ∀ (s : Segment) (d : DataG T),
    viewD view (s.processG Q E root d) = s.process E (view root) (viewD view d)
  | .descendant s, d => by
      rw [Segment.processG, Segment.process, Segment.processG_view s, viewD_flatMap _ _ (descendantG_view hf) d]
  | .selector s, d => Selector.processG_view s d
  | .selectors ss, d => Selector.processAllG_view ss d
theorem Selector.processAllG_view : ∀ (ss : List Selector) (d : DataG T),
    viewD view (Selector.processAllG Q E root ss d) = Selector.processAll E (view root) ss (viewD view d)
  | [], _ => rfl
  | [s], d => Selector.processG_view s d
  | s :: s' :: ss, d => by
      rw [Selector.processAllG, Selector.processAll, viewD_reduce, Selector.processG_view s d,
        Selector.processAllG_view (s' :: ss) d]
theorem Selector.processG_view : ∀ (s : Selector) (d : DataG T),
    viewD view (s.processG Q E root d) = s.process E (view root) (viewD view d)
  | .name k, d => viewD_flatMap _ _ (processKeyG_view hf k) d
  | .index i, d => viewD_flatMap _ _ (processIndexG_view hf i) d
  | .wildcard, d => viewD_flatMap _ _ (processWildcardG_view hf) d
  | .slice a b c, d => viewD_flatMap _ _ (processSliceG_view hf a b c) d
  | .filter f, d => by
      rw [Selector.processG, Selector.process]
      exact filterChildrenWithG_view hf _ _ (fun p => by rw [boolOfG_view hf, Filter.elemG_view f (.ref p)]; rfl) d
theorem Segment.processListG_view : ∀ (ss : List Segment) (d : DataG T),
    viewD view (Segment.processListG Q E root ss d) = Segment.processList E (view root) ss (viewD view d)
  | [], _ => rfl
  | s :: ss, d => by
      rw [Segment.processListG, Segment.processList, Segment.processListG_view ss, Segment.processG_view s d]
theorem Filter.elemG_view : ∀ (f : Filter) (d : DataG T),
    viewD view (f.elemG Q E root d) = f.elem E (view root) (viewD view d)
  | .or fs, d => by rw [Filter.elemG, Filter.elem, dboolG_view hf, Filter.anyG_view fs d]
  | .and fs, d => by rw [Filter.elemG, Filter.elem, dboolG_view hf, Filter.allG_view fs d]
  | .atom a, d => FilterAtom.processG_view a d
theorem Filter.anyG_view : ∀ (fs : List Filter) (d : DataG T),
    Filter.anyG Q E root fs d = Filter.any E (view root) fs (viewD view d)
  | [], _ => rfl
  | f :: fs, d => by
      rw [Filter.anyG, Filter.any, Filter.anyG_view fs d, boolOfG_view hf,
        filterProcessWithG_elem hf E root f (Filter.elemG_view f) d]
theorem Filter.allG_view : ∀ (fs : List Filter) (d : DataG T),
    Filter.allG Q E root fs d = Filter.all E (view root) fs (viewD view d)
  | [], _ => rfl
  | f :: fs, d => by
      rw [Filter.allG, Filter.all, Filter.allG_view fs d, boolOfG_view hf,
        filterProcessWithG_elem hf E root f (Filter.elemG_view f) d]
theorem FilterAtom.processG_view : ∀ (a : FilterAtom) (d : DataG T),
    viewD view (a.processG Q E root d) = a.process E (view root) (viewD view d)
  | .filter e n, d => by
      rw [FilterAtom.processG, FilterAtom.process, Bool.apply_cond (viewD view), dboolG_view hf, boolOfG_view hf,
        filterProcessWithG_elem hf E root e (Filter.elemG_view e) d]
  | .test e n, d => by
      simp only [FilterAtom.processG, FilterAtom.process, Bool.apply_cond (viewD view), dboolG_view hf, boolOfG_view hf,
        presentOfG_view (view := view), Test.processG_view e d]
  | .cmp op l r, d => by
      rw [FilterAtom.processG, FilterAtom.process, dboolG_view hf, cmpDataG_view hf,
        Comparable.processG_view l d, Comparable.processG_view r d]
theorem Comparable.processG_view : ∀ (c : Comparable) (d : DataG T),
    viewD view (c.processG Q E root d) = c.process E (view root) (viewD view d)
  | .lit l, _ => congrArg Data.value (literalValueG_view hf l)
  | .fn f, d => TestFunction.processG_view f d
  | .sq isRoot segs, d => by
      rw [Comparable.processG, Comparable.process, foldl_SQ_view hf]
      cases isRoot <;> rfl
theorem Test.processG_view : ∀ (t : Test) (d : DataG T),
    viewD view (t.processG Q E root d) = t.process E (view root) (viewD view d)
  | .rel segs, d => Segment.processListG_view segs d
  | .abs segs, _ => Segment.processListG_view segs _
  | .fn f, d => TestFunction.processG_view f d
theorem TestFunction.processG_view : ∀ (f : TestFunction) (d : DataG T),
    viewD view (f.processG Q E root d) = f.process E (view root) (viewD view d)
  | .length a, d => by rw [TestFunction.processG, TestFunction.process, lengthFnG_view hf, FnArg.processG_view a d]
  | .count a, d => by rw [TestFunction.processG, TestFunction.process, countFnG_view hf, FnArg.processG_view a d]
  | .value a, d => by rw [TestFunction.processG, TestFunction.process, valueFnG_view, FnArg.processG_view a d]
  | .match a b, d | .search a b, d => by
      rw [TestFunction.processG, TestFunction.process, toStrDG_view hf, toPatDG_view hf, FnArg.processG_view a d, FnArg.processG_view b d]
      exact regexG_view hf E _ _ _
  | .custom name args, d => by
      rw [TestFunction.processG, TestFunction.process, viewD_value, hf.ext, FnArg.valuesG_view args d]
theorem FnArg.valuesG_view : ∀ (args : List FnArg) (d : DataG T),
    (FnArg.valuesG Q E root args d).map view = FnArg.values E (view root) args (viewD view d)
  | [], _ => rfl
  | a :: as, d => by
      rw [FnArg.valuesG, FnArg.values, List.map_append, argValuesG_view, FnArg.processG_view a d, FnArg.valuesG_view as d]
theorem FnArg.processG_view : ∀ (a : FnArg) (d : DataG T),
    viewD view (a.processG Q E root d) = a.process E (view root) (viewD view d)
  | .lit l, _ => congrArg Data.value (literalValueG_view hf l)
  | .test t, d => Test.processG_view t d
  | .filter f, d => filterProcessWithG_elem hf E root f (Filter.elemG_view f) d
end

/-- the whole evaluator commutes with any faithful view -/
theorem jsPathProcessG_view (segs : List Segment) :
    (match jsPathProcessG Q E root segs with
      | .ok ps => Except.ok (ps.map (viewP view))
      | .error e => .error e) = jsPathProcess E segs (view root) := by
  unfold jsPathProcessG jsPathProcess
  rw [← rootDataG_view root, ← Segment.processListG_view hf E root segs (rootDataG root)]
  cases Segment.processListG Q E root segs (rootDataG root) <;> rfl

end
end JP
