import JsonPathVerif.C11
/-! C08 (ii): the integer arithmetic of `process_index` / `process_slice` (src/query/selector.rs) with Rust's overflow checks
made explicit.  Every `i64` operation is a function into `Option` (`none` = the panic "attempt to … with overflow" of a build
with overflow checks; in a release build the value would wrap).  Theorems: for all indices/bounds/steps in the I-JSON range the
parser admits, and every array length below 2^62, no checked operation fails and the checked functions compute exactly the
unchecked model used everywhere else. -/
namespace JP
namespace Checked

/-- `i64::MIN` = -2^63 -/
def I64_MIN : Int := -9223372036854775808
/-- is `x` representable as `i64` (between -2^63 and 2^63-1)? -/
def inI64 (x : Int) : Bool := decide (-9223372036854775808 ≤ x ∧ x ≤ 9223372036854775807)
theorem inI64_of {x : Int} (h : -9223372036854775808 ≤ x ∧ x ≤ 9223372036854775807) : inI64 x = true :=
  decide_eq_true h
/-- the integers the parser lets through (`validate_range`): |x| ≤ 2^53 - 1 -/
def inJ (x : Int) : Prop := -9007199254740991 ≤ x ∧ x ≤ 9007199254740991
def inJO : Option Int → Prop | none => True | some x => inJ x

def cAdd (a b : Int) : Option Int := if inI64 (a + b) then some (a + b) else none
def cSub (a b : Int) : Option Int := if inI64 (a - b) then some (a - b) else none
def cNeg (a : Int) : Option Int := if inI64 (-a) then some (-a) else none
/-- `i64::abs`: overflows exactly at `i64::MIN` -/
def cAbs (a : Int) : Option Int := if a < 0 then cNeg a else some a

/-- `process_index` on an array of length `len`: the position selected, `none` inside = nothing selected; outer `none` = panic -/
def cIndex (idx : Int) (len : Int) : Option (Option Int) :=
  if idx ≥ 0 then (if idx ≥ len then some none else some (some idx))
  else
    match cAbs idx with
    | none => none
    | some a => if a > len then some none else (cSub len a).map some

def cNorm (len i : Int) : Option Int := if i ≥ 0 then some i else cAdd len i

def cLoopPos (e upper idx : Int) (he : 0 < e) : Option (List Int) :=
  if idx < upper then
    (if inI64 (idx + e) then (cLoopPos e upper (idx + e) he).map (idx :: ·) else none)   -- `idx += e`
  else some []
termination_by (upper - idx).toNat
decreasing_by omega

def cLoopNeg (e lower idx : Int) (he : e < 0) : Option (List Int) :=
  if lower < idx then
    (if inI64 (idx + e) then (cLoopNeg e lower (idx + e) he).map (idx :: ·) else none)
  else some []
termination_by (idx - lower).toNat
decreasing_by omega

/-- `process_slice`'s `extract_elems`, every arithmetic step checked -/
def cSlice (a b c : Option Int) (len : Int) : Option (List Int) :=
  let e := c.getD 1
  if h : e > 0 then
    (cNorm len (a.getD 0)).bind fun ns =>
    (cNorm len (b.getD len)).bind fun ne =>
    cLoopPos e (min (max ne 0) len) (min (max ns 0) len) h
  else if h : e < 0 then
    (cSub len 1).bind fun lm1 =>
    (cNeg len).bind fun nl => (cSub nl 1).bind fun nlm1 =>
    (cNorm len (a.getD lm1)).bind fun ns =>
    (cNorm len (b.getD nlm1)).bind fun ne =>
    cLoopNeg e (min (max ne (-1)) lm1) (min (max ns (-1)) lm1) h
  else some []

theorem cLoopPos_ok (e upper idx : Int) (he : 0 < e) (hej : e ≤ 9007199254740991) (hu : upper ≤ 4611686018427387904) (hi : 0 ≤ idx) :
    cLoopPos e upper idx he = some (SpecS.up e upper idx he) := by
  fun_induction SpecS.up e upper idx he with
  | case1 idx h ih =>
    unfold cLoopPos
    have : inI64 (idx + e) = true := inI64_of (by omega)
    simp [h, this, ih (by omega)]
  | case2 idx h => unfold cLoopPos; simp [h]

theorem cLoopNeg_ok (e lower idx : Int) (he : e < 0) (hej : -9007199254740991 ≤ e) (hl : -1 ≤ lower) (hi : idx ≤ 4611686018427387904) :
    cLoopNeg e lower idx he = some (SpecS.down e lower idx he) := by
  fun_induction SpecS.down e lower idx he with
  | case1 idx h ih =>
    unfold cLoopNeg
    have : inI64 (idx + e) = true := inI64_of (by omega)
    simp [h, this, ih (by omega)]
  | case2 idx h => unfold cLoopNeg; simp [h]

/-- normalising a slice bound cannot overflow: the bound is one the parser admits, or a default between `-len - 1` and `len` -/
theorem cNorm_ok {len d : Int} {o : Option Int} (h0 : 0 ≤ len) (hlen : len ≤ 4611686018427387904) (ho : inJO o)
    (hd : -len - 1 ≤ d ∧ d ≤ len) : cNorm len (o.getD d) = some (normI len (o.getD d)) := by
  have : -4611686018427387905 ≤ o.getD d ∧ o.getD d ≤ 4611686018427387904 := by
    cases o with
    | none => show _ ≤ d ∧ d ≤ _; omega
    | some x => exact ⟨Int.le_trans (by decide) ho.1, Int.le_trans ho.2 (by decide)⟩
  unfold cNorm normI
  by_cases h : o.getD d ≥ 0
  · rw [if_pos h, if_pos h]
  · rw [if_neg h, if_neg h]
    exact if_pos (inI64_of (by omega))

/-- no overflow in the slice arithmetic, and the checked function is the unchecked model -/
theorem cSlice_ok (a b c : Option Int) (len : Int) (ha : inJO a) (hb : inJO b) (hc : inJO c)
    (h0 : 0 ≤ len) (hlen : len ≤ 4611686018427387904) : cSlice a b c len = some (sliceIndices a b c len) := by
  have hc : inJ (c.getD 1) := by
    cases c with
    | none => exact ⟨by decide, by decide⟩
    | some x => exact hc
  rw [sliceIndices_spec]
  by_cases h1 : 0 < c.getD 1
  · have hs := cNorm_ok (d := 0) h0 hlen ha (by omega)
    have he := cNorm_ok (d := len) h0 hlen hb (by omega)
    simp only [cSlice, gt_iff_lt, h1, dite_true, hs, he, Option.bind_some, slice_pos a b c len h1]
    exact cLoopPos_ok _ _ _ h1 hc.2 (Int.le_trans (clamp_mem h0 _).2 hlen) (clamp_mem h0 _).1
  · by_cases h2 : c.getD 1 < 0
    · have s1 : cSub len 1 = some (len - 1) := if_pos (inI64_of (by omega))
      have s2 : cNeg len = some (-len) := if_pos (inI64_of (by omega))
      have s3 : cSub (-len) 1 = some (-len - 1) := if_pos (inI64_of (by omega))
      have hs := cNorm_ok (d := len - 1) h0 hlen ha (by omega)
      have he := cNorm_ok (d := -len - 1) h0 hlen hb (by omega)
      have hl : -1 ≤ len - 1 := by omega
      simp only [cSlice, gt_iff_lt, h1, h2, dite_true, dite_false, s1, s2, s3, hs, he, Option.bind_some, slice_neg a b c len h2]
      exact cLoopNeg_ok _ _ _ h2 hc.1 (clamp_mem hl _).1 (Int.le_trans (clamp_mem hl _).2 (by omega))
    · simp only [cSlice, gt_iff_lt, h1, h2, dite_false, slice_zero a b c len h1 h2]

/-- no overflow in `process_index`: `idx.abs()` cannot overflow for an index the parser admits -/
theorem cIndex_ok (idx : Int) (len : Nat) (hi : inJ idx) (hlen : (len : Int) ≤ 4611686018427387904) :
    cIndex idx len = some ((implIndex idx len).map fun (n : Nat) => (n : Int)) := by
  rw [implIndex_spec, cIndex, SpecS.index]
  unfold inJ at hi
  by_cases h : idx ≥ 0
  · rw [if_pos h, if_pos h]
    by_cases h2 : idx ≥ (len : Int)
    · rw [if_pos h2, if_neg (by omega)]
    · rw [if_neg h2, if_pos (by omega)]
  · have hab : cAbs idx = some (-idx) := (if_pos (by omega)).trans (if_pos (inI64_of (by omega)))
    have hs : cSub len (-idx) = some (len + idx) := by
      rw [← Int.sub_neg]; exact if_pos (inI64_of (by omega))
    rw [if_neg h, if_neg h, hab]
    by_cases h2 : -idx > (len : Int)
    · simp only [h2, if_true]; rw [if_neg (by omega)]
    · simp only [h2, if_false, hs]; rw [if_pos (by omega)]; rfl

/-- …and it DOES overflow at `i64::MIN`, which is why the singular-query index had to be range-checked (defect D10) -/
theorem cIndex_min_panics (len : Int) : cIndex I64_MIN len = none := by
  simp [cIndex, cAbs, cNeg, inI64, I64_MIN]

end Checked
end JP
