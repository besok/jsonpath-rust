import JsonPathVerif.Spec
/-! How the evaluator's states (`Data`) are read as RFC nodelists, and the algebra of `flatMap`/`reduce` under that reading.
Two shapes of states: `shaped`, anything but an owned value (what selectors and segments return), and `sqShape`, one node or nothing. -/
namespace JP

abbrev toN (p : Ptr) : Spec.Node := (p.loc, p.inner)

/-- the nodelist a state stands for (an owned value stands for none) -/
abbrev nodesOf (d : Data) : List Spec.Node := d.toVec.map toN

def Data.shaped : Data → Prop
  | .value _ => False
  | _ => True

@[simp] theorem Data.shaped_ref (p : Ptr) : (Data.ref p).shaped := trivial
@[simp] theorem Data.shaped_refs (ps : List Ptr) : (Data.refs ps).shaped := trivial
@[simp] theorem Data.shaped_nothing : Data.nothing.shaped := trivial
@[simp] theorem Data.not_shaped_value (v : Json) : ¬ (Data.value v).shaped := id

/-- states reachable by name/index steps from a single node -/
def Data.sqShape : Data → Prop
  | .ref _ => True
  | .nothing => True
  | _ => False

theorem shaped_of_sq (d : Data) (h : d.sqShape) : d.shaped := by
  cases d <;> simp_all [Data.sqShape]

/-- the state that is one pointer or nothing: what the name and index selectors return for one pointer -/
def Data.ofOpt : Option Ptr → Data
  | some q => .ref q
  | none => .nothing

theorem Data.ofOpt_sq (o : Option Ptr) : (Data.ofOpt o).sqShape := by cases o <;> trivial
theorem Data.toVec_ofOpt (o : Option Ptr) : (Data.ofOpt o).toVec = o.toList := by cases o <;> rfl

theorem Data.toVec_flatMap (f : Ptr → Data) (d : Data) :
    (d.flatMap f).toVec = d.toVec.flatMap (fun p => (f p).toVec) := by
  cases d with
  | ref p => exact (List.append_nil _).symm
  | _ => rfl

theorem nodesOf_flatMap {f : Ptr → Data} {g : Spec.Node → List Spec.Node} (h : ∀ p, nodesOf (f p) = g (toN p)) (d : Data) :
    nodesOf (d.flatMap f) = (nodesOf d).flatMap g := by
  simp only [nodesOf, Data.toVec_flatMap, List.map_flatMap, List.flatMap_map]
  congr 1; exact funext h

theorem Data.shaped_flatMap (f : Ptr → Data) (d : Data) (hf : ∀ p, (f p).shaped) : (d.flatMap f).shaped := by
  cases d with
  | ref p => exact hf p
  | _ => trivial

theorem Data.sqShape_flatMap (f : Ptr → Data) (d : Data) (hf : ∀ p, (f p).sqShape) (hd : d.sqShape) : (d.flatMap f).sqShape := by
  cases d with
  | ref p => exact hf p
  | refs _ | value _ => exact hd.elim
  | nothing => trivial

theorem Data.toVec_reduce (a b : Data) (ha : a.shaped) (hb : b.shaped) :
    (a.reduce b).toVec = a.toVec ++ b.toVec := by
  cases a <;> cases b <;> first | rfl | exact ha.elim | exact hb.elim | exact (List.append_nil _).symm

theorem Data.shaped_reduce (a b : Data) : (a.reduce b).shaped := by
  cases a <;> cases b <;> trivial

theorem zipIdxFrom_map_children (xs : List Json) (loc : Loc) (path : Str) (i : Nat) :
    ((zipIdxFrom xs i).map fun (x, j) => toN (Ptr.idx x loc path j))
      = (zipIdxFrom xs i).map fun (x, j) => ((loc ++ [Step.idx j], x) : Spec.Node) := rfl

theorem childrenPtr_toN (p : Ptr) : (childrenPtr p).map toN = Spec.children (toN p) := by
  unfold childrenPtr Spec.children
  cases h : p.inner <;> simp [toN, h, Ptr.idx, Ptr.key, Function.comp_def]

/-- the wildcard selects the children (`Nothing` instead of an empty list is the same nodelist) -/
theorem processWildcard_toVec (p : Ptr) : (processWildcard p).toVec = childrenPtr p := by
  unfold processWildcard childrenPtr
  cases p.inner <;> simp only [Data.toVec]
  all_goals (rename_i xs; cases xs <;> rfl)

theorem processWildcard_spec (p : Ptr) : nodesOf (processWildcard p) = Spec.children (toN p) := by
  rw [nodesOf, processWildcard_toVec, childrenPtr_toN]

theorem processWildcard_shaped (p : Ptr) : (processWildcard p).shaped := by
  unfold processWildcard; cases p.inner <;> simp
  all_goals (split <;> simp)

/-- containers: the nodes a selector can select from -/
def isCont (n : Spec.Node) : Bool := match n.2 with | .arr _ => true | .obj _ => true | _ => false

abbrev cont (ns : List Spec.Node) : List Spec.Node := ns.filter fun n => match n.2 with | .arr _ => true | .obj _ => true | _ => false

theorem cont_eq (ns : List Spec.Node) : cont ns = ns.filter isCont := rfl

end JP
