import JsonPathVerif.Eval
/-! # C14 – in, nin, none_of, any_of, subset_of implement set membership (w.r.t. the data type's `==`) -/
namespace JP.C14

def mem (x : Json) (l : List Json) : Bool := l.any fun y => y.beq x

theorem in_spec (x : Json) (l : List Json) :
    extensionCustom "in".toList [x, .arr l] = .bool (mem x l) := by
  simp [extensionCustom, asArr, mem]
theorem nin_spec (x : Json) (l : List Json) :
    extensionCustom "nin".toList [x, .arr l] = .bool (!mem x l) := by
  simp [extensionCustom, asArr, mem]
theorem any_of_spec (a b : List Json) :
    extensionCustom "any_of".toList [.arr a, .arr b] = .bool (a.any fun x => mem x b) := by
  simp [extensionCustom, asArr, mem]
theorem none_of_spec (a b : List Json) :
    extensionCustom "none_of".toList [.arr a, .arr b] = .bool (a.all fun x => !mem x b) := by
  simp [extensionCustom, asArr, mem]
theorem subset_of_spec (a b : List Json) :
    extensionCustom "subset_of".toList [.arr a, .arr b] = .bool (a.all fun x => mem x b) := by
  simp [extensionCustom, asArr, mem]

/-- complement laws -/
theorem nin_is_not_in (x : Json) (l : List Json) :
    extensionCustom "nin".toList [x, .arr l] = .bool (!(mem x l)) := nin_spec x l
theorem none_is_not_any (a b : List Json) :
    (a.all fun x => !mem x b) = !(a.any fun x => mem x b) := List.not_any_eq_all_not.symm
theorem empty_subset (b : List Json) : extensionCustom "subset_of".toList [.arr [], .arr b] = .bool true :=
  subset_of_spec [] b

/-- the property's wording, as propositions: membership is "some element of L equals x" -/
theorem mem_iff (x : Json) (l : List Json) : mem x l = true ↔ ∃ y ∈ l, y.beq x = true := by
  simp [mem, List.any_eq_true]
theorem in_iff (x : Json) (l : List Json) :
    extensionCustom "in".toList [x, .arr l] = .bool true ↔ ∃ y ∈ l, y.beq x = true := by
  rw [in_spec, ← mem_iff]; simp
theorem any_of_iff (a b : List Json) :
    extensionCustom "any_of".toList [.arr a, .arr b] = .bool true ↔ ∃ x ∈ a, ∃ y ∈ b, y.beq x = true := by
  rw [any_of_spec]; simp [List.any_eq_true, mem_iff]
theorem none_of_iff (a b : List Json) :
    extensionCustom "none_of".toList [.arr a, .arr b] = .bool true ↔ ¬ ∃ x ∈ a, ∃ y ∈ b, y.beq x = true := by
  rw [← any_of_iff, none_of_spec, any_of_spec, none_is_not_any]; simp
theorem subset_of_iff (a b : List Json) :
    extensionCustom "subset_of".toList [.arr a, .arr b] = .bool true ↔ ∀ x ∈ a, ∃ y ∈ b, y.beq x = true := by
  rw [subset_of_spec]; simp [List.all_eq_true, mem_iff]

/-- `any` and `all` over a list depend only on which elements occur in it -/
theorem any_congr_mem {α : Type} {l l' : List α} (h : ∀ x, x ∈ l ↔ x ∈ l') (p : α → Bool) : l.any p = l'.any p := by
  rw [Bool.eq_iff_iff, List.any_eq_true, List.any_eq_true]
  simp only [h]
theorem all_congr_mem {α : Type} {l l' : List α} (h : ∀ x, x ∈ l ↔ x ∈ l') (p : α → Bool) : l.all p = l'.all p := by
  rw [Bool.eq_iff_iff, List.all_eq_true, List.all_eq_true]
  simp only [h]

/-- arrays are read as SETS: the answer of `subset_of` depends only on which elements occur in A and in B, not on how often or in
which order (so an array with repeated elements that is longer than B can still be a subset of it) -/
theorem subset_of_set_semantics (a a' b b' : List Json) (ha : ∀ x, x ∈ a ↔ x ∈ a') (hb : ∀ y, y ∈ b ↔ y ∈ b') :
    extensionCustom "subset_of".toList [.arr a, .arr b] = extensionCustom "subset_of".toList [.arr a', .arr b'] := by
  rw [subset_of_spec, subset_of_spec, all_congr_mem ha]
  simp only [mem, any_congr_mem hb]
theorem any_of_set_semantics (a a' b b' : List Json) (ha : ∀ x, x ∈ a ↔ x ∈ a') (hb : ∀ y, y ∈ b ↔ y ∈ b') :
    extensionCustom "any_of".toList [.arr a, .arr b] = extensionCustom "any_of".toList [.arr a', .arr b'] := by
  rw [any_of_spec, any_of_spec, any_congr_mem ha]
  simp only [mem, any_congr_mem hb]
/-- a longer array with repeated elements inside a shorter one -/
example : extensionCustom "subset_of".toList [.arr [.null, .null, .bool true, .null], .arr [.bool true, .null]] = .bool true := by rw [subset_of_spec]; rfl
/-- a non-array where an array is required gives `null`, which a test reads as false -/
theorem in_non_array (x y : Json) (h : asArr y = none) : extensionCustom "in".toList [x, y] = .null := by
  simp [extensionCustom, h]
/-- every function wants two arguments: with one, each of its branches is `null` -/
theorem missing_argument (name : Str) (x : Json) : boolOf (.value (extensionCustom name [x])) = false := by
  unfold extensionCustom
  simp only [ite_self]
  rfl

end JP.C14
