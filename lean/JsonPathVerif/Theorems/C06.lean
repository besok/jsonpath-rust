import JsonPathVerif.Lex.Int
import JsonPathVerif.Lex.Names
import JsonPathVerif.Lex.Tokens
import JsonPathVerif.Parser
import JsonPathVerif.Validity
/-! # C06 – every valid RFC 9535 query is accepted (lexical layers proved on the GENERATED grammar)

`PestGrammar.lean` is re-derived from `/repo`'s `.pest` file on every check, so these theorems are re-checked against what
the grammar says now.  Proved: the token layers (`int`, `number`, `string`, shorthand names, function names).  Everything above the proved layers is decided by the
correspondence + oracle search only (see DESIGN 5.6). -/
namespace JP.C06
open JP.Pest JP.Lex

/-- full statement: every RFC-valid string is accepted by the parser model -/
def C06_statement : Prop := ∀ s : Str, Rfc.verdict s = .valid → ∃ q, parseJsonPath s = .ok q

/-- layer 2, completeness direction: wherever the RFC `int` lexer succeeds, the grammar's `int` rule succeeds and
consumes exactly the same lexeme, in every parsing context -/
theorem C06_partial_int (c : Ctx) (pos : Nat) (r r' : Rest) (h : rfcInt r = some r') :
    ∃ s, int_ c pos r = some s ∧ s.rest = r' :=
  lexR_eq_some.1 ((int_spec c pos r).trans h)

/-- layer 4a, completeness: wherever RFC `member-name-shorthand` lexes (any name-first character, incl. every non-ASCII one such
as U+00A0 or U+2003, then name-chars), the grammar's rule accepts the same lexeme, in every parsing context -/
theorem C06_partial_shorthand (c : Ctx) (pos : Nat) (r r' : Rest) (h : rfcShorthand r = some r') :
    ∃ s, member_name_shorthand_ c pos r = some s ∧ s.rest = r' :=
  lexR_eq_some.1 ((member_name_shorthand_spec c pos r).trans h)

/-- layer 6a, completeness: every RFC `function-name` lexeme is accepted as such -/
theorem C06_partial_function_name (c : Ctx) (pos : Nat) (r r' : Rest) (h : rfcFunctionName r = some r') :
    ∃ s, function_name_ c pos r = some s ∧ s.rest = r' :=
  lexR_eq_some.1 ((function_name_spec c pos r).trans h)

/-- layers 2-4, completeness: whatever the RFC token grammar (Appendix A, `RfcLex`) lexes as `int`, `number` or `string-literal`
the grammar's rule accepts, consuming exactly the same lexeme, in every parsing context: all number formats, both quote styles,
every escape incl. lower-case hex and surrogate pairs -/
theorem C06_partial_tokens (c : Ctx) (pos : Nat) (r r' : Rest) :
    (RfcLex.int r = some r' → ∃ s, int_ c pos r = some s ∧ s.rest = r') ∧
    (RfcLex.number r = some r' → ∃ s, number_ c pos r = some s ∧ s.rest = r') ∧
    (RfcLex.stringLiteral r = some r' → ∃ s, string_ c pos r = some s ∧ s.rest = r') :=
  ⟨fun h => lexR_eq_some.1 ((int_denotes c pos r).trans h), fun h => lexR_eq_some.1 ((number_denotes c pos r).trans h),
    fun h => lexR_eq_some.1 ((string_denotes c pos r).trans h)⟩

/-- non-vacuity: `-12]` is lexed up to `]` -/
example : rfcInt "-12]".toList = some "]".toList := by decide

end JP.C06
