import JsonPathVerif.Refinement
import JsonPathVerif.Parser
/-! # C13 – equivalent spellings of a query give the same result (AST level)

`.name`, `['name']`, `["name"]` reach the parser model as the three raw lexemes `name`, `'name'`, `"name"` of one member
name; `.*`/`[*]` and `..x`/`..[x]` are already the same AST; `100`, `1e2`, `100.0` are the literals `int 100`,
`float 100 1`, `float 1000 10`.  Proved here: those ASTs evaluate to the same nodes.  (String level – blank-space invariance of the
parser – is covered by the metamorphic correspondence.) -/
namespace JP.C13

/-- all spellings of one escape-free member name select the same node of every input node -/
theorem name_spellings (E : Engine) (root : Json) (k raw₁ raw₂ : Str) (h₁ : PlainName raw₁ k) (h₂ : PlainName raw₂ k) (p : Ptr) :
    (processKey raw₁ p).toVec.map toN = (processKey raw₂ p).toVec.map toN := by
  refine (processKey_spec h₁ E root p).trans (Eq.trans ?_ (processKey_spec h₂ E root p).symm)
  simp [Spec.sel, Spec.selName, decodeName_plain h₁, decodeName_plain h₂]

/-- the three spellings of the name `a` -/
example : PlainName "a".toList "a".toList ∧ PlainName "'a'".toList "a".toList ∧ PlainName "\"a\"".toList "a".toList :=
  ⟨.shorthand _ (by decide) (by decide) (by decide),
   .quoted '\'' "a".toList (.inl rfl) (by decide) (by decide),
   .quoted '"' "a".toList (.inr rfl) (by decide) (by decide)⟩

/-- a whole query keeps its nodes (as a multiset, in RFC order for union-free queries) when it is replaced by any query with
the same RFC meaning: both are equal to the RFC nodelist -/
theorem same_spec_same_nodes (E : Engine) (d : Json) (q₁ q₂ : List Segment) (h₁ : okSegs q₁) (h₂ : okSegs q₂)
    (hs : Spec.query E q₁ d = Spec.query E q₂ d) :
    ∃ ps₁ ps₂, jsPathProcess E q₁ d = .ok ps₁ ∧ jsPathProcess E q₂ d = .ok ps₂ ∧ (ps₁.map toN).Perm (ps₂.map toN) := by
  obtain ⟨ps₁, e₁, p₁⟩ := query_perm E d q₁ h₁
  obtain ⟨ps₂, e₂, p₂⟩ := query_perm E d q₂ h₂
  exact ⟨ps₁, ps₂, e₁, e₂, p₁.trans (hs ▸ p₂.symm)⟩

/-- scaling numerator and denominator of an integer's fraction by `d > 0` changes no comparison with another number -/
theorem num_scaled (n : Int) (d : Nat) (hd : 0 < d) (b : Num) :
    Spec.numEq (.int n) b = Spec.numEq (.flt (n * d) d) b ∧ Spec.numEq b (.int n) = Spec.numEq b (.flt (n * d) d) ∧
    Spec.numLt (.int n) b = Spec.numLt (.flt (n * d) d) b ∧ Spec.numLt b (.int n) = Spec.numLt b (.flt (n * d) d) := by
  have hd' : (0 : Int) < d := Int.natCast_pos.mpr hd
  have eq : ∀ x a : Int, (x * d == a * d) = (x == a) := fun x a => by
    rw [Bool.eq_iff_iff]; simp only [beq_iff_eq]; exact Int.mul_eq_mul_right_iff (Int.ne_of_gt hd')
  have lt : ∀ x a : Int, decide (x * d < a * d) = decide (x < a) := fun _ _ => decide_eq_decide.mpr
    ⟨fun h => Int.lt_of_mul_lt_mul_right h (Int.le_of_lt hd'), fun h => Int.mul_lt_mul_of_pos_right h hd'⟩
  cases b <;> simp [Spec.numEq, Spec.numLt, Spec.numVal, Int.mul_right_comm n d, eq, lt]

/-- every decimal spelling of the integer `n` (numerator `n*d` over a positive power-of-ten – or any positive – denominator `d`:
`100.0` = 1000/10, `1.00e2` = 100/1, `10000e-2` = 10000/100 …) compares like `n`, against every operand and under every operator -/
theorem number_spellings_scaled (op : CmpOp) (n : Int) (d : Nat) (hd : 0 < d) (x : Data) (hx : x.cmpShape) :
    cmpData op (.value (.num (.int n))) x = cmpData op (.value (.num (.flt (n * d) d))) x ∧
    cmpData op x (.value (.num (.int n))) = cmpData op x (.value (.num (.flt (n * d) d))) := by
  have hi : (Data.value (.num (.int n))).cmpShape := rfl
  have hf : (Data.value (.num (.flt (n * d) d))).cmpShape := rfl
  rw [cmpData_spec op _ x hi hx, cmpData_spec op _ x hf hx, cmpData_spec op x _ hx hi, cmpData_spec op x _ hx hf]
  -- `Spec.cmp` looks at its operands through `eqOpt` and `ltOpt` only
  have key : ∀ y : Option Json, Spec.eqOpt (some (.num (.int n))) y = Spec.eqOpt (some (.num (.flt (n * d) d))) y ∧
      Spec.eqOpt y (some (.num (.int n))) = Spec.eqOpt y (some (.num (.flt (n * d) d))) ∧
      Spec.ltOpt (some (.num (.int n))) y = Spec.ltOpt (some (.num (.flt (n * d) d))) y ∧
      Spec.ltOpt y (some (.num (.int n))) = Spec.ltOpt y (some (.num (.flt (n * d) d))) := by
    intro y
    match y with
    | some (.num b) => simpa [Spec.eqOpt, Spec.ltOpt, Spec.jsonEq] using num_scaled n d hd b
    | none | some .null | some (.bool _) | some (.str _) | some (.arr _) | some (.obj _) => simp [Spec.eqOpt, Spec.ltOpt, Spec.jsonEq]
  obtain ⟨k1, k2, k3, k4⟩ := key (dataVal x)
  simp only [dataVal] at k1 k2 k3 k4 ⊢
  simp only [Spec.cmp, k1, k2, k3, k4, and_self]

/-- integer and float spellings of one number compare alike, against every operand and under every operator -/
theorem number_spellings (op : CmpOp) (n : Int) (x : Data) (hx : x.cmpShape) :
    cmpData op (.value (.num (.int n))) x = cmpData op (.value (.num (.flt n 1))) x ∧
    cmpData op x (.value (.num (.int n))) = cmpData op x (.value (.num (.flt n 1))) := by
  simpa using number_spellings_scaled op n 1 (by decide) x hx

/-- `100.0` and `1.00e2` as the parser reads them are instances of `number_spellings_scaled` (n = 100; d = 10, d = 1) -/
example : parseF64 "100.0".toList = some (100 * 10, 10) ∧ parseF64 "1.00e2".toList = some (100 * 1, 1) := by decide

/-- `?expr` = `?(expr)` and redundant parentheses: a parenthesised sub-expression evaluates, for the child under test, to the same
truth value as the expression itself (no well-formedness hypothesis needed) -/
theorem redundant_parentheses (E : Engine) (root : Json) (e : Filter) (p : Ptr) (hp : p.path = []) :
    boolOf ((Filter.atom (.filter e false)).elem E root (.ref p)) = boolOf (e.elem E root (.ref p)) := by
  simp only [Filter.elem, FilterAtom.process, cond_false, filterProcessWith_internal _ p hp]
  cases boolOf (e.elem E root (.ref p)) <;> rfl

/-- `!(!(expr))` = `expr` -/
theorem double_negation (E : Engine) (root : Json) (e : Filter) (p : Ptr) (hp : p.path = []) :
    boolOf ((Filter.atom (.filter (.atom (.filter e true)) true)).elem E root (.ref p)) = boolOf (e.elem E root (.ref p)) := by
  simp only [Filter.elem, FilterAtom.process, cond_true, filterProcessWith_internal _ p hp]
  cases boolOf (e.elem E root (.ref p)) <;> rfl

/-- the same two laws on the RFC side -/
theorem spec_parentheses (E : Engine) (root : Json) (n : Spec.Node) (e : Filter) :
    Spec.logical E root n (.atom (.filter e false)) = Spec.logical E root n e ∧
    Spec.logical E root n (.atom (.filter (.atom (.filter e true)) true)) = Spec.logical E root n e := by
  simp [Spec.logical, Spec.atom]

/-- `1e2` = `100`: the parser's exact decimal value of a float spelling -/
example : parseF64 "1e2".toList = some (100, 1) ∧ parseF64 "100.0".toList = some (1000, 10) ∧
    Spec.numEq (.flt 100 1) (.int 100) = true ∧ Spec.numEq (.flt 1000 10) (.int 100) = true := by decide

end JP.C13
