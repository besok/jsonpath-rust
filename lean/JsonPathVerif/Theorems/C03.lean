import JsonPathVerif.Paths
import JsonPathVerif.NPath
import JsonPathVerif.PathAst
/-! # C03 – each reported path is the Normalized Path of the reported node -/
namespace JP.C03

def C03a_statement : Prop :=
  ∀ (E : Engine) (q : List Segment) (d : Json) (ps : List Ptr), jsPathProcess E q d = .ok ps →
    ∀ p ∈ ps, p.path = Spec.npath p.loc

def E0 : Engine := ⟨fun _ _ _ => false⟩
/-- `$["a"]` on `{"a": 1}` reports `$['"a"']` -/
def witnessQuery : List Segment := [.selector (.name ['"', 'a', '"'])]
def witnessDoc : Json := .obj [(['a'], .num (.int 1))]

theorem witness_path : (match jsPathProcess E0 witnessQuery witnessDoc with
    | .ok [p] => some (p.path, Spec.npath p.loc) | _ => none)
    = some ("$['\"a\"']".toList, "$['a']".toList) := by decide

theorem C03a_refuted : ¬ C03a_statement := fun h =>
  absurd (h E0 witnessQuery witnessDoc [⟨[.key ['a']], .num (.int 1), "$['\"a\"']".toList⟩] rfl _ (List.mem_singleton_self _))
    (by decide)

theorem C03a_partial (E : Engine) (q : List Segment) (d : Json) (hd : d.plainKeys = true) (hn : nnSegs q)
    (ps : List Ptr) (h : jsPathProcess E q d = .ok ps) : ∀ p ∈ ps, p.path = Spec.npath p.loc :=
  fun p hp => (result_paths E d hd q hn ps h p hp).1

/-- (b) for ALL locations, arbitrary member names included: the Normalized Path determines the node (a decoder inverts it) -/
theorem C03b_injective (l₁ l₂ : Loc) (h : Spec.npath l₁ = Spec.npath l₂) : l₁ = l₂ := NPath.npath_injective l₁ l₂ h
theorem C03b_decodable (l : Loc) : NPath.parseNPath (Spec.npath l) = some l := NPath.parseNPath_npath l

/-- (a)+(b): under the hypotheses of `C03a_partial`, two results of one query carry the same path exactly when they are the same node -/
theorem C03b_results (E : Engine) (q : List Segment) (d : Json) (hd : d.plainKeys = true) (hn : nnSegs q)
    (ps : List Ptr) (h : jsPathProcess E q d = .ok ps) (p₁ p₂ : Ptr) (h₁ : p₁ ∈ ps) (h₂ : p₂ ∈ ps) :
    p₁.path = p₂.path ↔ p₁.loc = p₂.loc := by
  rw [C03a_partial E q d hd hn ps h p₁ h₁, C03a_partial E q d hd hn ps h p₂ h₂]
  exact ⟨NPath.npath_injective _ _, fun e => by rw [e]⟩

/-- (c), AST level: for a location whose member names need no escaping, the AST of its Normalized Path, run as a query, returns
exactly the node at that location, reported with that very path – and nothing if the location does not exist.  (That the parser
maps the text `npath l` to this AST is carried by the correspondence: every reported path is re-queried on the real crate.) -/
theorem C03c_ast (E : Engine) (d : Json) (l : Loc) (h : plainLoc l = true) :
    jsPathProcess E (segsOfLoc l) d = .ok (match d.at l with | some v => [⟨l, v, Spec.npath l⟩] | none => []) := by
  unfold jsPathProcess rootData
  rw [processList_segsOfLoc E d l ⟨[], d, ['$']⟩ h, NPath.npath_eq]
  cases d.at l <;> rfl

/-- non-vacuity: names that need every kind of escape round-trip through the decoder -/
example : NPath.parseNPath (Spec.npath [.key "a'b\\\n".toList, .idx 10, .key [Char.ofNat 1]]) = some [.key "a'b\\\n".toList, .idx 10, .key [Char.ofNat 1]] :=
  NPath.parseNPath_npath _

end JP.C03
