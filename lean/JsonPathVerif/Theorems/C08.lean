import JsonPathVerif.OkQuery
import JsonPathVerif.Checked
/-! # C08 – parsing and evaluation never panic, abort or hang (what a total functional model can carry)

* every `Impl` function is a total Lean function; the two `while` loops of `process_slice` are the well-founded
  recursions `loopPos`/`loopNeg`, whose termination measures are accepted by the kernel only because `step ≠ 0` in the
  respective branch;
* evaluating a well-formed query never returns `Err`;
* every index the slice loop produces is inside the array (no out-of-bounds access is attempted), the loop runs at most
  `len` times, and with every `i64` operation checked nothing overflows for the integers the parser admits.
Stack depth and wall-clock time are outside a functional model: observed by the isolated-worker correspondence. -/
namespace JP.C08

/-- evaluation of a well-formed query always succeeds -/
theorem eval_never_err (E : Engine) (q : List Segment) (d : Json) (hq : okSegs q) :
    ∃ ps, jsPathProcess E q d = .ok ps :=
  ⟨_, jsPathProcess_ok E d q⟩

/-- the slice loop only produces in-range indices: `elements.get(i)` never misses, `as usize` never wraps -/
theorem slice_indices_in_bounds (a b c : Option Int) (len : Nat) :
    ∀ i ∈ sliceIndices a b c len, 0 ≤ i ∧ i < len := by
  rw [sliceIndices_spec]
  exact slice_inRange a b c len (Int.natCast_nonneg len)

theorem loopPos_length (e upper idx : Int) (he : 0 < e) : (loopPos e upper idx he).length ≤ (upper - idx).toNat := by
  fun_induction loopPos e upper idx he with
  | case1 idx h ih => simp only [List.length_cons]; omega
  | case2 idx h => simp

theorem loopNeg_length (e lower idx : Int) (he : e < 0) : (loopNeg e lower idx he).length ≤ (idx - lower).toNat := by
  fun_induction loopNeg e lower idx he with
  | case1 idx h ih => simp only [List.length_cons]; omega
  | case2 idx h => simp

/-- the number of iterations of the slice loops is bounded by the array length, whatever the bounds and the step
(extreme steps included): no unbounded loop -/
theorem slice_iterations_bounded (a b c : Option Int) (len : Nat) : (sliceIndices a b c len).length ≤ len := by
  have h0 : (0 : Int) ≤ len := Int.natCast_nonneg len
  rw [sliceIndices_spec]
  by_cases h1 : 0 < c.getD 1
  · rw [slice_pos a b c len h1, ← loopPos_eq_up]
    exact Nat.le_trans (loopPos_length ..)
      (Int.toNat_le.2 (Int.le_trans (Int.sub_le_self _ (clamp_mem h0 _).1) (clamp_mem h0 _).2))
  · by_cases h2 : c.getD 1 < 0
    · rw [slice_neg a b c len h2, ← loopNeg_eq_down]
      have hl : (-1 : Int) ≤ len - 1 := by omega
      exact Nat.le_trans (loopNeg_length ..)
        (Int.toNat_le.2 (Int.le_trans (Int.sub_le_sub (clamp_mem hl _).2 (clamp_mem hl _).1) (by omega)))
    · rw [slice_zero a b c len h1 h2]
      exact Nat.zero_le _

/-- no arithmetic overflow in slice selection: with every `i64` operation of `process_slice` checked (`idx.abs()`, `len + i`,
`len - 1`, `-len - 1`, `idx += step`), all bounds and the step in the I-JSON range the parser admits (extremes ±(2^53-1)
included) and any array length up to 2^62, no operation overflows and the result is the unchecked model's -/
theorem slice_no_overflow (a b c : Option Int) (len : Int) (ha : Checked.inJO a) (hb : Checked.inJO b) (hc : Checked.inJO c)
    (h0 : 0 ≤ len) (hlen : len ≤ 4611686018427387904) : Checked.cSlice a b c len = some (sliceIndices a b c len) :=
  Checked.cSlice_ok a b c len ha hb hc h0 hlen

/-- no arithmetic overflow in index selection for every index the parser admits -/
theorem index_no_overflow (idx : Int) (len : Nat) (hi : Checked.inJ idx) (hlen : (len : Int) ≤ 4611686018427387904) :
    Checked.cIndex idx len = some ((implIndex idx len).map fun (n : Nat) => (n : Int)) := Checked.cIndex_ok idx len hi hlen

/-- the range check is necessary: at `i64::MIN` `idx.abs()` overflows (defect D10, repaired in the parser) -/
theorem index_overflow_at_i64_min (len : Int) : Checked.cIndex Checked.I64_MIN len = none := Checked.cIndex_min_panics len

/-- non-vacuity: the extreme slice `[2^53-1 : -(2^53-1) : -(2^53-1)]` satisfies the hypotheses -/
example : Checked.inJO (some 9007199254740991) ∧ Checked.inJO (some (-9007199254740991)) ∧ Checked.inJO none := by
  simp [Checked.inJO, Checked.inJ]

end JP.C08
