import JsonPathVerif.Refinement
import JsonPathVerif.ParsedOk
/-! # C02 – results are in RFC 9535 document order, duplicates preserved

Full statement, refutation on the model (replayed on the crate by the check: known finding KF-union-order), the exact
characterisation of what is computed instead, and the partial theorems that follow from it. -/
namespace JP.C02

def locsOf (r : Except Unit (List Ptr)) : Option (List Loc) :=
  match r with | .ok ps => some (ps.map (·.loc)) | .error _ => none

/-- full strength: for every well-formed query and document the locations come out in RFC order -/
def C02_statement : Prop :=
  ∀ (E : Engine) (q : List Segment) (d : Json), okSegs q →
    locsOf (jsPathProcess E q d) = some ((Spec.query E q d).map (·.1))

def E0 : Engine := ⟨fun _ _ _ => false⟩
def witnessDoc : Json := .arr [.arr [.num (.int 1), .num (.int 2)], .arr [.num (.int 3), .num (.int 4)]]
/-- `$[*][0,1]` -/
def witnessQuery : List Segment := [.selector .wildcard, .selectors [.index 0, .index 1]]

theorem witness_ok : okSegs witnessQuery := by
  simp [witnessQuery, okSegs, okSeg, okSel, okSels]

/-- the code (as modelled) returns `$[0][0], $[1][0], $[0][1], $[1][1]` -/
theorem witness_impl : locsOf (jsPathProcess E0 witnessQuery witnessDoc)
    = some [[.idx 0, .idx 0], [.idx 1, .idx 0], [.idx 0, .idx 1], [.idx 1, .idx 1]] := by decide

theorem C02_refuted : ¬ C02_statement := by
  intro h
  have := h E0 witnessQuery witnessDoc witness_ok
  revert this
  decide

theorem locsOf_of_nodes {r : Except Unit (List Ptr)} {ns : List Spec.Node} (h : ∃ ps, r = .ok ps ∧ ps.map toN = ns) :
    locsOf r = some (ns.map (·.1)) := by
  obtain ⟨ps, rfl, rfl⟩ := h
  simp [locsOf, Function.comp_def]

/-- proved part: no multi-selector segment at the top level (filters are unconstrained) -/
theorem C02_partial (E : Engine) (q : List Segment) (d : Json) (hq : okSegs q) (hu : unionFreeSegs q) :
    locsOf (jsPathProcess E q d) = some ((Spec.query E q d).map (·.1)) :=
  locsOf_of_nodes (query_ordered E d q hq hu)

/-- exact content of the deviation: for EVERY well-formed query the result is, as a list, the RFC nodelist with multi-selector
segments concatenated selector-major (`Spec.querySM`) -/
theorem C02_characterised (E : Engine) (q : List Segment) (d : Json) (hq : okSegs q) :
    locsOf (jsPathProcess E q d) = some ((Spec.querySM E q d).map (·.1)) :=
  locsOf_of_nodes (query_characterised E d q hq)

/-- sharp partial form: RFC order whenever no multi-selector segment receives two or more nodes; the hypothesis is the
Boolean class `KF.multiSelOnMulti` that the check evaluates on every generated case (known finding KF-union-order) -/
theorem C02_partial_sharp (E : Engine) (q : List Segment) (d : Json) (hq : okSegs q)
    (hm : KF.multiSelOnMulti E d q [([], d)] = false) :
    locsOf (jsPathProcess E q d) = some ((Spec.query E q d).map (·.1)) :=
  locsOf_of_nodes (query_ordered_sharp E d q hq hm)

/-- end to end, on query strings: for every accepted, escape-free query string of plain shape the result list is the
selector-major variant of the RFC nodelist, and it is the RFC nodelist itself (order included) unless some multi-selector
segment receives two or more nodes -/
theorem C02_parsed (E : Engine) (s : Str) (q : List Segment) (d : Json) (hp : parseJsonPath s = .ok q)
    (he : KF.escFreeSegs q = true) (hs : shSegs q = true) :
    locsOf (jsPathProcess E q d) = some ((Spec.querySM E q d).map (·.1)) ∧
    (KF.multiSelOnMulti E d q [([], d)] = false → locsOf (jsPathProcess E q d) = some ((Spec.query E q d).map (·.1))) :=
  ⟨C02_characterised E q d (parsed_ok s q hp he hs), C02_partial_sharp E q d (parsed_ok s q hp he hs)⟩

/-- non-vacuity of the sharp form: `$[0][0,1]` has a union but it receives one node -/
example : KF.multiSelOnMulti E0 witnessDoc [.selector (.index 0), .selectors [.index 0, .index 1]] [([], witnessDoc)] = false := by decide
/-- and the refuting witness is inside the class -/
example : KF.multiSelOnMulti E0 witnessDoc witnessQuery [([], witnessDoc)] = true := by decide

/-- non-vacuity: a query with a descendant segment, a filter and duplicates satisfies the hypotheses -/
example : okSegs [.descendant (.selector (.name "a".toList)), .selector (.filter (.atom (.test (.rel [.selector .wildcard]) false)))]
    ∧ unionFreeSegs [.descendant (.selector (.name "a".toList)), .selector (.filter (.atom (.test (.rel [.selector .wildcard]) false)))] := by
  refine ⟨?_, ?_⟩
  · simp only [okSegs, okSeg, okSel, okFlt, okAtom, okTest, and_true]
    exact ⟨"a".toList, PlainName.shorthand _ (by decide) (by decide) (by decide)⟩
  · simp [unionFreeSegs, unionFreeSeg]

end JP.C02
