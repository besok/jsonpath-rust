import JsonPathVerif.Refinement
import JsonPathVerif.ParserShape
/-! # C05 – filter logic, existence tests and @/$ scoping (evaluator side) -/
namespace JP.C05

/-- the truth value the evaluator computes for a child is the RFC truth value of the logical expression -/
theorem C05_logical (E : Engine) (root : Json) (f : Filter) (hf : okFlt f) (loc : Loc) (child : Json) :
    boolOf (f.elem E root (.ref (Ptr.empty child loc))) = Spec.logical E root (loc, child) f :=
  flt_spec E root f (Ptr.empty child loc) hf rfl

/-- a filter selector keeps exactly the children for which the expression holds, in their order -/
theorem C05_children (E : Engine) (root : Json) (f : Filter) (hf : okFlt f) (d : Data) (hd : d.shaped) :
    nodesOf ((Selector.filter f).process E root d)
      = (nodesOf d).flatMap fun n => (Spec.children n).filter fun c => Spec.logical E root c f := by
  simpa [Spec.sel] using sel_spec E root (.filter f) d hf

-- Boolean algebra on the specification side (what the evaluator is proved equal to)
theorem or_spec (E : Engine) (root : Json) (n : Spec.Node) (a b : Filter) :
    Spec.logical E root n (.or [a, b]) = (Spec.logical E root n a || Spec.logical E root n b) := by
  simp [Spec.logical, Spec.logicalAny]
theorem and_spec (E : Engine) (root : Json) (n : Spec.Node) (a b : Filter) :
    Spec.logical E root n (.and [a, b]) = (Spec.logical E root n a && Spec.logical E root n b) := by
  simp [Spec.logical, Spec.logicalAll]
theorem not_spec (E : Engine) (root : Json) (n : Spec.Node) (e : Filter) :
    Spec.logical E root n (.atom (.filter e true)) = !Spec.logical E root n e := by
  simp [Spec.logical, Spec.atom]
/-- an existence test is true exactly when the query selects at least one node, whatever its value -/
theorem exists_spec (E : Engine) (root : Json) (n : Spec.Node) (ss : List Segment) :
    Spec.logical E root n (.atom (.test (.rel ss) false)) = !(Spec.segs E root ss [n]).isEmpty := by
  simp [Spec.logical, Spec.atom, Spec.test]
/-- `$` inside a filter always denotes the document root -/
theorem root_spec (E : Engine) (root : Json) (n m : Spec.Node) (ss : List Segment) :
    Spec.logical E root n (.atom (.test (.abs ss) false)) = Spec.logical E root m (.atom (.test (.abs ss) false)) := by
  simp [Spec.logical, Spec.atom, Spec.test]

/-- parser side of "`&&` binds tighter than `||`": for every pair tree the builder is handed, the logical expression it builds
is an `or` of `and`s of atoms (parenthesised sub-expressions are atoms) -/
theorem C05_precedence_shape (fuel : Nat) (inp : Inp) (p : PairT) (f : Filter) (h : logicalExprB fuel inp p = .ok f) : OrShape f :=
  logicalExprB_shape fuel inp p f h

/-- and such an expression is evaluated as the disjunction of the conjunctions: `a || b && c` is `a || (b && c)` -/
theorem or_of_ands_spec (E : Engine) (root : Json) (n : Spec.Node) (a b c : FilterAtom) :
    Spec.logical E root n (.or [.atom a, .and [.atom b, .atom c]])
      = (Spec.atom E root n a || (Spec.atom E root n b && Spec.atom E root n c)) := by
  simp [Spec.logical, Spec.logicalAny, Spec.logicalAll]

end JP.C05
