import JsonPathVerif.C11
/-! # C11 – index and slice arithmetic is exact for all bounds and lengths -/
namespace JP.C11T

theorem C11_index (idx : Int) (len : Nat) :
    (implIndex idx len).map (fun (n : Nat) => (n : Int)) = SpecS.index idx len := implIndex_spec idx len
theorem C11_slice (a b c : Option Int) (len : Int) : sliceIndices a b c len = SpecS.slice a b c len :=
  sliceIndices_spec a b c len
theorem C11_inRange (a b c : Option Int) (len : Int) (h : 0 ≤ len) : ∀ x ∈ SpecS.slice a b c len, 0 ≤ x ∧ x < len :=
  slice_inRange a b c len h
theorem C11_step_zero (a b : Option Int) (len : Int) : SpecS.slice a b (some 0) len = [] :=
  slice_zero a b (some 0) len (by decide) (by decide)
-- non-vacuity / sanity: RFC example `[1:5:2]` on a length-7 array
example : SpecS.slice (some 1) (some 5) (some 2) 7 = [1, 3] := by
  rw [slice_pos _ _ (some 2) _ (by decide)]
  show SpecS.up 2 5 1 _ = _
  rw [SpecS.up, SpecS.up, SpecS.up]
  rfl
end JP.C11T
