import JsonPathVerif.Compare
import JsonPathVerif.ParserRG
/-! # C04 – filter comparisons follow the RFC 9535 comparison rules -/
namespace JP.C04

/-- the six operators on evaluated operands (value, node, nothing) are the RFC operators -/
theorem C04_cmp (op : CmpOp) (l r : Data) (hl : l.cmpShape) (hr : r.cmpShape) :
    cmpData op l r = Spec.cmp op (dataVal l) (dataVal r) := cmpData_spec op l r hl hr

/-- JSON equality of the implementation is RFC equality (numbers by value, containers structurally) -/
theorem C04_eq (a b : Json) : eqJson a b = Spec.jsonEq a b := eqJson_spec a b

-- derived operators, stated on the implementation
theorem ne_is_not_eq (l r : Data) : cmpData .ne l r = !cmpData .eq l r := rfl
theorem le_is_lt_or_eq (l r : Data) : cmpData .le l r = (cmpData .lt l r || cmpData .eq l r) := rfl
theorem gt_is_lt_swapped (l r : Data) : cmpData .gt l r = cmpData .lt r l := rfl
theorem ge_is_gt_or_eq (l r : Data) : cmpData .ge l r = (cmpData .gt l r || cmpData .eq l r) := rfl
theorem nothing_eq_nothing : cmpData .eq .nothing .nothing = true := rfl
theorem nothing_ne_value (v : Json) : cmpData .eq .nothing (.value v) = false := rfl
theorem lt_nothing (d : Data) : cmpData .lt .nothing d = false := by cases d <;> rfl

/-- trichotomy on numbers: exactly one of `<`, `==`, `>` holds (exact values; ints and floats mixed) -/
theorem num_trichotomy (a b : Num) :
    (cmpData .lt (.value (.num a)) (.value (.num b)) = true ∧ cmpData .eq (.value (.num a)) (.value (.num b)) = false ∧ cmpData .gt (.value (.num a)) (.value (.num b)) = false) ∨
    (cmpData .lt (.value (.num a)) (.value (.num b)) = false ∧ cmpData .eq (.value (.num a)) (.value (.num b)) = true ∧ cmpData .gt (.value (.num a)) (.value (.num b)) = false) ∨
    (cmpData .lt (.value (.num a)) (.value (.num b)) = false ∧ cmpData .eq (.value (.num a)) (.value (.num b)) = false ∧ cmpData .gt (.value (.num a)) (.value (.num b)) = true) := by
  -- in terms of the two cross products `a.num * b.den`, `b.num * a.den` the claim is trichotomy of `<` on `Int`
  simp only [cmpData, ltData, eqData, ltJson, eqJson, Num.lt_eq, Num.exactEq_eq, Spec.numLt, Spec.numEq,
    decide_eq_true_eq, decide_eq_false_iff_not, beq_iff_eq, beq_eq_false_iff_ne, ne_eq]
  omega

/-- trichotomy on strings (ordered by Unicode scalar value, lexicographically) -/
theorem str_trichotomy (a b : Str) :
    (cmpData .lt (.value (.str a)) (.value (.str b)) = true ∧ cmpData .eq (.value (.str a)) (.value (.str b)) = false ∧ cmpData .gt (.value (.str a)) (.value (.str b)) = false) ∨
    (cmpData .lt (.value (.str a)) (.value (.str b)) = false ∧ cmpData .eq (.value (.str a)) (.value (.str b)) = true ∧ cmpData .gt (.value (.str a)) (.value (.str b)) = false) ∨
    (cmpData .lt (.value (.str a)) (.value (.str b)) = false ∧ cmpData .eq (.value (.str a)) (.value (.str b)) = false ∧ cmpData .gt (.value (.str a)) (.value (.str b)) = true) := by
  simp only [cmpData, ltData, eqData, ltJson, eqJson, decide_eq_true_eq, decide_eq_false_iff_not, beq_iff_eq, beq_eq_false_iff_ne, ne_eq]
  rcases Std.lt_trichotomy a b with h | h | h
  · exact .inl ⟨h, fun e => by subst e; exact List.lt_irrefl _ h, List.lt_asymm h⟩
  · subst h; exact .inr (.inl ⟨List.lt_irrefl _, rfl, List.lt_irrefl _⟩)
  · exact .inr (.inr ⟨List.lt_asymm h, fun e => by subst e; exact List.lt_irrefl _ h, h⟩)

/-- `<` never holds across types -/
theorem lt_across_types (a b : Json) (h : ∀ x y, ¬ (a = .num x ∧ b = .num y)) (h' : ∀ x y, ¬ (a = .str x ∧ b = .str y)) :
    cmpData .lt (.value a) (.value b) = false := by
  show ltJson a b = false
  unfold ltJson
  split
  · exact absurd ⟨rfl, rfl⟩ (h _ _)
  · exact absurd ⟨rfl, rfl⟩ (h' _ _)
  · rfl

/-- for ALL strings: every number literal of a query the parser accepts is a number the crate can hold – an integer in the I-JSON range
or a decimal that rounds to a FINITE double (`rgLit`, part of `rgSegs`). A literal such as `1e400`, which `f64` parsing reads as infinity and
`serde_json` then turns into `null` (D30), is rejected; so comparisons are only ever evaluated on operands inside the domain of the theorems above -/
theorem C04_literals_representable (s : Str) (q : List Segment) (h : parseJsonPath s = .ok q) : rgSegs q = true :=
  parse_intsInRange s q h
example : rgLit (.float (10 ^ 400) 1) = false ∧ rgLit (.float 1 0) = false ∧ rgLit (.float 3 2) = true ∧ rgLit (.int 9007199254740992) = false ∧
    rgSegs [.selector (.filter (.atom (.cmp .eq (.sq false []) (.lit (.float (10 ^ 400) 1)))))] = false := by decide +kernel

end JP.C04
