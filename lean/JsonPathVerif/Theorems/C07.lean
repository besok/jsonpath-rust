import JsonPathVerif.OuterBlank
import JsonPathVerif.Lex.Int
import JsonPathVerif.Lex.Names
import JsonPathVerif.Lex.Tokens
import JsonPathVerif.ParserWT
import JsonPathVerif.ParserRG
import JsonPathVerif.Parser
import JsonPathVerif.Validity
/-! # C07 – every string that is not a valid RFC 9535 query is rejected (lexical layers on the GENERATED grammar) -/
namespace JP.C07
open JP.Pest JP.Lex

/-- full statement -/
def C07_statement : Prop := ∀ (s : Str) q, parseJsonPath s = .ok q → Rfc.verdict s ≠ .invalid

/-- layer 2, soundness direction: the grammar's `int` rule accepts nothing but an RFC `int` lexeme – no blank inside,
no leading zero, no `-0`, no `+` – and stops right after it -/
theorem C07_partial_int (c : Ctx) (pos : Nat) (r : Rest) (s : St RuleId) (h : int_ c pos r = some s) :
    rfcInt r = some s.rest :=
  (int_spec c pos r).symm.trans (lexR_of_eq_some h)

/-- layer 4a, soundness: the `member_name_shorthand` rule accepts nothing but an RFC shorthand name and stops right after it
(`$.a b` cannot be read as the name `a b`) -/
theorem C07_partial_shorthand (c : Ctx) (pos : Nat) (r : Rest) (s : St RuleId) (h : member_name_shorthand_ c pos r = some s) :
    rfcShorthand r = some s.rest :=
  (member_name_shorthand_spec c pos r).symm.trans (lexR_of_eq_some h)

/-- layer 6a, soundness: no blank or upper-case letter inside a function name (`le ngth`, `Length`) -/
theorem C07_partial_function_name (c : Ctx) (pos : Nat) (r : Rest) (s : St RuleId) (h : function_name_ c pos r = some s) :
    rfcFunctionName r = some s.rest :=
  (function_name_spec c pos r).symm.trans (lexR_of_eq_some h)

/-- layers 2-4, soundness: the token rules accept nothing but RFC tokens (`1. 5`, `'\\ n'`, `\\u 00 41`, a lone surrogate, `\\'`
inside double quotes are not tokens) and stop right after the token -/
theorem C07_partial_tokens (c : Ctx) (pos : Nat) (r : Rest) (s : St RuleId) :
    (int_ c pos r = some s → RfcLex.int r = some s.rest) ∧
    (number_ c pos r = some s → RfcLex.number r = some s.rest) ∧
    (string_ c pos r = some s → RfcLex.stringLiteral r = some s.rest) :=
  ⟨fun h => (int_denotes c pos r).symm.trans (lexR_of_eq_some h), fun h => (number_denotes c pos r).symm.trans (lexR_of_eq_some h),
    fun h => (string_denotes c pos r).symm.trans (lexR_of_eq_some h)⟩

/-- layer 6b (function typing), for ALL strings: a query the parser accepts is well-typed in the sense of RFC 9535 2.4.3 –
`length`, `match`, `search` only receive ValueType arguments, `count` and `value` only queries, arities are right, a
value-returning function is never a test expression and a logical one never a comparison operand.  Proved for every pair tree the
builder of `parser.rs` can be handed (`builderWT`), hence independent of the grammar. -/
theorem C07_partial_typing (s : Str) (q : List Segment) (h : parseJsonPath s = .ok q) : Spec.wtSegs q = true :=
  parse_wellTyped s q h

/-- number ranges, for ALL strings: every integer of an index selector, a slice bound or step, or a singular-query index of an
accepted query lies in the I-JSON range ±(2^53-1), and every number LITERAL is an integer in that range or a decimal that rounds to
a finite double (again for every pair tree the builder can be handed) -/
theorem C07_partial_int_range (s : Str) (q : List Segment) (h : parseJsonPath s = .ok q) : rgSegs q = true :=
  parse_intsInRange s q h

example : rgSegs [.selector (.index 9007199254740992)] = false ∧ rgSegs [.selector (.slice none (some (-9007199254740991)) none)] = true ∧
    rgSegs [.selector (.filter (.atom (.cmp .eq (.sq false [.index (-9223372036854775808)]) (.lit .null))))] = false := by decide

/-- the typing discipline is not vacuous: the ill-typed ASTs of defect D15 are rejected by `Spec.wtSegs` -/
example : Spec.wtSegs [.selector (.filter (.atom (.cmp .eq (.fn (.length (.test (.rel [.selector .wildcard])))) (.lit (.int 2)))))] = false ∧
    Spec.wtSegs [.selector (.filter (.atom (.test (.fn (.length (.test (.rel [])))) false)))] = false ∧
    Spec.wtSegs [.selector (.filter (.atom (.cmp .eq (.fn (.length (.test (.rel [.selector (.name "a".toList)])))) (.lit (.int 2)))))] = true := by
  decide

/-- blank space before `$` or after the last segment, for ALL strings: rejected, whatever lies between (RFC 9535 2.1.1: a query
begins with the root identifier; the ABNF has no trailing `S`) -/
theorem C07_partial_outer_blanks (s : Str) (c : Char) (hb : isBlank c = true) :
    parseJsonPath (c :: s) = err ∧ parseJsonPath (s ++ [c]) = err :=
  ⟨parseJsonPath_untrimmed (trimBlank_cons_blank c s hb), parseJsonPath_untrimmed (trimBlank_snoc_blank c s hb)⟩
/-- … and the oracle classifies every string with a leading blank as invalid -/
theorem leading_blank_is_invalid (s : Str) (c : Char) (hb : isBlank c = true) : Rfc.verdict (c :: s) = .invalid := by
  have hc : c ≠ '$' := by
    rintro rfl
    exact absurd hb (by decide)
  rw [Rfc.verdict, parseAll_of_ne hc]
  rfl
example : isBlank ' ' = true ∧ isBlank '\t' = true ∧ isBlank '\n' = true ∧ isBlank '\r' = true ∧ isBlank (Char.ofNat 0xA0) = false := by decide

/-- blanks, leading zeros and `-0` are not `int` lexemes -/
example : rfcInt "1 2".toList = some " 2".toList ∧ rfcInt "- 1".toList = none ∧ rfcInt "-0".toList = none ∧
    rfcInt "01".toList = some "1".toList := by decide

end JP.C07
