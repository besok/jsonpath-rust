import JsonPathVerif.Refinement
import JsonPathVerif.Regex
import JsonPathVerif.RegexSem
/-! # C10 – length, count, value, match and search behave as RFC 9535 defines -/
namespace JP.C10

/-- `length`: scalars of a string, elements, members; nothing otherwise -/
theorem length_spec (d : Data) (hd : d.cmpShape) : dataVal (lengthFn d) = Spec.lengthOf (dataVal d) :=
  (lengthFn_spec d hd).2
/-- `count`: the number of selected nodes, 0 for none -/
theorem count_spec (d : Data) (hd : d.shaped) : dataVal (countFn d) = some (.num (.int (nodesOf d).length)) :=
  (countFn_spec d hd).2
theorem count_nothing : dataVal (countFn .nothing) = some (.num (.int 0)) := rfl
/-- `value`: the single node's value, nothing otherwise -/
theorem value_spec (d : Data) (hd : d.shaped) :
    dataVal (valueFn d) = (match nodesOf d with | [n] => some n.2 | _ => none) := (valueFn_spec d hd).2
/-- function results inside a query: value-typed calls denote the RFC value … -/
theorem fn_value (E : Engine) (root : Json) (f : TestFunction) (p : Ptr) (hf : okFnValue f) :
    dataVal (f.process E root (.ref p)) = Spec.fnValue E root (toN p) f := (fnValue_spec E root f p hf).2
/-- … and logical-typed calls the RFC truth value (relative to the regular-expression engine `E`) -/
theorem fn_logical (E : Engine) (root : Json) (f : TestFunction) (p : Ptr) (hf : okFnLogical f) :
    boolOf (f.process E root (.ref p)) = Spec.fnLogical E root (toN p) f := fnLogical_spec E root f p hf

/-- `length` counts Unicode scalar values: a non-BMP character counts once -/
example : (match dataVal (lengthFn (.value (.str [Char.ofNat 0x1D11E, 'a']))) with | some (.num (.int n)) => n | _ => -1) = 2 := by decide

def yes (v : Re.Verdict) : Bool := v == .yes
/-- top-level alternation is anchored as a whole (D18) -/
example : yes (Re.regexFn "ab".toList "a|b".toList false) = false := by decide +kernel
example : yes (Re.regexFn "b".toList "a|b".toList false) = true := by decide +kernel
example : yes (Re.regexFn "xaby".toList "a|b".toList true) = true := by decide +kernel
/-- an invalid pattern is false, also when the wrapper would make it valid -/
example : yes (Re.regexFn "".toList "+x*".toList false) = false := by decide +kernel
/-- `a)|(b` is not a regular expression although `^(?:a)|(b)$` is one (D31) -/
example : yes (Re.regexFn "a".toList "a)|(b".toList false) = false ∧ yes (Re.regexFn "xb".toList "a)|(b".toList false) = false := by decide +kernel
/-- a literal pattern loses the doubling of its backslashes, a pattern from the document does not (`toPatD`) -/
example : toPatD (.value (.str ['a', '\\', '\\', 'b'])) = some ['a', '\\', 'b'] ∧
    toPatD (.ref ⟨[], .str ['a', '\\', '\\', 'b'], []⟩) = some ['a', '\\', '\\', 'b'] := by decide


/-! ### `match` / `search` against the textbook semantics of regular expressions
`Re.L r w` is the language of an expression without `^`/`$` (defined by the usual rules, no
algorithm); `Re.M` is the positional relation that also knows the two anchors. The model's matcher
(`Re.isMatch`, what `Regex::is_match` is compared with) decides both, for every expression and
every string – including the fuel it runs on. -/

/-- the matcher finds a match iff one exists (sound, complete, enough fuel) -/
theorem matcher_decides (r : Re.Rx) (s : Str) :
    Re.isMatch r s = true ↔ ∃ i j, i ≤ s.length ∧ Re.M s.toArray r i j := Re.isMatch_iff r s
/-- `match(s, p)`: true iff the **entire** string is in the language of `p` (RFC 9535 2.4.6) -/
theorem match_is_whole_string (r : Re.Rx) (hr : Re.anchorFree r = true) (s : Str) :
    Re.isMatch (Re.anchored r) s = true ↔ Re.L r s := Re.match_whole r hr s
/-- `search(s, p)`: true iff **some substring** is in the language of `p` (RFC 9535 2.4.7) -/
theorem search_is_some_substring (r : Re.Rx) (hr : Re.anchorFree r = true) (s : Str) :
    Re.isMatch r s = true ↔ ∃ pre w post, s = pre ++ w ++ post ∧ Re.L r w := Re.search_substring r hr s

/-- `match(s, p)` as computed from the two strings: whenever the pattern parses to an anchor-free `r`, the answer is `yes` exactly
if the whole of `s` is in the language of `r` -/
theorem match_fn (s p : Str) (r : Re.Rx) (hp : Re.parse p = .ok r) (hr : Re.anchorFree r = true) :
    Re.regexFn s p false = .yes ↔ Re.L r s :=
  (Re.regexFn_ok s p r false hp).trans (Re.match_whole r hr s)
/-- `search(s, p)` as computed from the two strings -/
theorem search_fn (s p : Str) (r : Re.Rx) (hp : Re.parse p = .ok r) (hr : Re.anchorFree r = true) :
    Re.regexFn s p true = .yes ↔ ∃ pre w post, s = pre ++ w ++ post ∧ Re.L r w :=
  (Re.regexFn_ok s p r true hp).trans (Re.search_substring r hr s)
/-- a second argument that is not a regular expression gives LogicalFalse – the anchoring wrapper of `match` cannot rescue it -/
theorem invalid_pattern_is_false (s p : Str) (sub : Bool) (hp : Re.parse p = .invalid) : Re.regexFn s p sub = .no := by
  unfold Re.regexFn; rw [hp]

-- the wrapper `^(?:p)$` parses to `anchored` of what `p` parses to (tests on literals, not a theorem)
def sameRx : Re.Rx → Re.Rx → Bool
  | .eps, .eps | .any, .any | .bol, .bol | .eol, .eol => true
  | .chr c, .chr d => c == d
  | .cls n i, .cls m j => n == m && i == j
  | .seq a b, .seq c d | .alt a b, .alt c d => sameRx a c && sameRx b d
  | .star a, .star b | .plus a, .plus b | .opt a, .opt b => sameRx a b
  | _, _ => false
def parsedAs (p : String) (r : Re.Rx) : Bool := match Re.parse p.toList with | .ok r' => sameRx r' r | _ => false
example : parsedAs "^(?:a|b)$" (Re.anchored (.alt (.seq .eps (.chr 'a')) (.seq .eps (.chr 'b')))) = true := by decide +kernel
example : parsedAs "a|b" (.alt (.seq .eps (.chr 'a')) (.seq .eps (.chr 'b'))) = true := by decide +kernel
-- non-vacuity: an anchor-free expression and a word of its language
example : Re.anchorFree (.seq (.star (.chr 'a')) (.chr 'b')) = true := rfl
example : Re.L (.seq (.star (.chr 'a')) (.chr 'b')) ['a', 'a', 'b'] :=
  .seq (u := ['a', 'a']) (.starCons (u := ['a']) (.chr 'a') (.starCons (u := ['a']) (v := []) (.chr 'a') .starNil)) (.chr 'b')

end JP.C10
