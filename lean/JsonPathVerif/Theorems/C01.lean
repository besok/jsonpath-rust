import JsonPathVerif.Refinement
import JsonPathVerif.Paths
import JsonPathVerif.ParsedOk
import JsonPathVerif.Api
/-! # C01 – selected nodes are exactly the RFC 9535 nodelist (with multiplicity); every result is a borrow -/
namespace JP.C01

/-- full strength: for every syntactically valid query -/
def C01_statement : Prop :=
  ∀ (E : Engine) (q : List Segment) (d : Json), d.plainKeys = true →
    ∃ ps, jsPathProcess E q d = .ok ps ∧ (ps.map toN).Perm (Spec.query E q d) ∧
      ∀ p ∈ ps, d.at p.loc = some p.inner

def E0 : Engine := ⟨fun _ _ _ => false⟩
/-- `$["a\"b"]` on `{"a\"b": 1}`: the escape is not decoded, nothing is selected -/
def witnessQuery : List Segment := [.selector (.name ['"', 'a', '\\', '"', 'b', '"'])]
def witnessDoc : Json := .obj [(['a', '"', 'b'], .num (.int 1))]

theorem witness_impl : (match jsPathProcess E0 witnessQuery witnessDoc with | .ok ps => ps.length | .error _ => 99) = 0 := by decide
theorem witness_spec : (Spec.query E0 witnessQuery witnessDoc).length = 1 := by decide

theorem C01_refuted : ¬ C01_statement := by
  intro h
  obtain ⟨ps, h1, h2, _⟩ := h E0 witnessQuery witnessDoc (by decide)
  have hl := h2.length_eq
  have hi := witness_impl
  rw [h1] at hi
  simp only [List.length_map, witness_spec] at hl
  simp only at hi
  omega

/-- proved part: escape-free names and literals, well-typed function calls (`okSegs`) -/
theorem C01_partial (E : Engine) (q : List Segment) (d : Json) (hq : okSegs q) :
    ∃ ps, jsPathProcess E q d = .ok ps ∧ (ps.map toN).Perm (Spec.query E q d) :=
  query_perm E d q hq

/-- borrow clause: with plain, distinct member names and normalized name selectors each result is
the value at its location (and carries that location's Normalized Path, C03) -/
theorem C01_borrow (E : Engine) (q : List Segment) (d : Json) (hd : d.plainKeys = true) (hn : nnSegs q)
    (ps : List Ptr) (h : jsPathProcess E q d = .ok ps) : ∀ p ∈ ps, d.at p.loc = some p.inner :=
  fun p hp => (result_paths E d hd q hn ps h p hp).2

/-- end to end, on query STRINGS: for every string the parser accepts whose names and string literals contain no escape sequence
(and which has the plain shape every grammatical query has: no empty bracketed selection, no doubled `..`, custom-function
arguments that are values), evaluating the string over any document returns – as a multiset of (location, value) – exactly the
RFC 9535 nodelist of the parsed query.  The typing hypothesis of `C01_partial` is discharged by `parse_wellTyped`. -/
theorem C01_parsed (E : Engine) (s : Str) (q : List Segment) (d : Json) (hp : parseJsonPath s = .ok q)
    (he : KF.escFreeSegs q = true) (hs : shSegs q = true) :
    ∃ ps, jsPath E s d = .ok ps ∧ (ps.map toN).Perm (Spec.query E q d) := by
  obtain ⟨ps, h1, h2⟩ := query_perm E d q (parsed_ok s q hp he hs)
  exact ⟨ps, by simp [jsPath, hp, h1], h2⟩

/-- in particular such an evaluation never returns `Err`: the only source of `Err` is the parser (C08) -/
theorem parsed_never_errs (E : Engine) (s : Str) (q : List Segment) (d : Json) (hp : parseJsonPath s = .ok q)
    (he : KF.escFreeSegs q = true) (hs : shSegs q = true) : ∃ ps, jsPath E s d = .ok ps :=
  -- no segment list ever yields an owned value (`jsPathProcess_ok`); `he`, `hs` play no part
  ⟨_, by simp only [jsPath, hp]; exact jsPathProcess_ok E d q⟩

end JP.C01
