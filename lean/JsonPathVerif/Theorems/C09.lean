import JsonPathVerif.Pointer
import JsonPathVerif.PathAst
/-! # C09 – reference / reference_mut resolve a path to exactly its node (step-list layer)

Lens laws of the repaired walk over name/index steps. The connection between a Normalized Path string
and its step list (`pathSteps (parse (npath l))`) is not proved: `reference_get_ast` starts from the AST
`segsOfLoc l` of the path, and that the parser maps the text to this AST is left to the correspondence. -/
namespace JP.C09

/-- value at a step list (the same walk without locations) -/
def getAt : Json → List PStep → Option Json
  | j, [] => some j
  | .obj kvs, .name k :: r => (lookup k kvs).bind fun v => getAt v r
  | .arr xs, .index i :: r => (xs[i]?).bind fun v => getAt v r
  | _, _ => none

def stepLoc : List PStep → Loc
  | [] => []
  | .name k :: r => .key k :: stepLoc r
  | .index i :: r => .idx i :: stepLoc r

/-- `reference` returns the node at exactly that location -/
theorem walk_spec : ∀ (steps : List PStep) (j : Json) (l : Loc),
    walk j l steps = (getAt j steps).map fun v => (l ++ stepLoc steps, v)
  | [], j, l => by simp [walk, getAt, stepLoc]
  | .name k :: r, j, l => by
    cases j with
    | obj kvs =>
      rw [walk, getAt, stepLoc]
      cases lookup k kvs <;> simp [walk_spec r]
    | _ => rfl
  | .index i :: r, j, l => by
    cases j with
    | arr xs =>
      rw [walk, getAt, stepLoc]
      cases xs[i]? <;> simp [walk_spec r]
    | _ => rfl

theorem getAt_eq_at : ∀ (steps : List PStep) (j : Json), getAt j steps = j.at (stepLoc steps)
  | [], j => by rw [getAt, stepLoc, Json.at]
  | .name k :: r, j => by
    cases j with
    | obj kvs => simp only [getAt, stepLoc, Json.at, getAt_eq_at r]
    | _ => rfl
  | .index i :: r, j => by
    cases j with
    | arr xs => simp only [getAt, stepLoc, Json.at, getAt_eq_at r]
    | _ => rfl

theorem stepLoc_locSteps : ∀ (l : Loc), stepLoc (locSteps l) = l
  | [] => rfl
  | .key k :: l => congrArg (Step.key k :: ·) (stepLoc_locSteps l)
  | .idx i :: l => congrArg (Step.idx i :: ·) (stepLoc_locSteps l)

/-- a successful `setMember` rewrites the value of `k` by `f` and leaves the other members as they were -/
theorem lookup_setMember (k : Str) (f : Json → Option Json) : ∀ (kvs kvs' : List (Str × Json)), setMember k f kvs = some kvs' →
    ∃ v', (lookup k kvs).bind f = some v' ∧ ∀ k2, lookup k2 kvs' = if k2 = k then some v' else lookup k2 kvs
  | [], _, h => nomatch h
  | (k', v) :: kvs, kvs', h => by
    simp only [setMember, lookup, beq_iff_eq] at h ⊢
    by_cases hk : k' = k
    · rw [if_pos hk, Option.map_eq_some_iff] at h
      obtain ⟨v', hf, rfl⟩ := h
      refine ⟨v', by rw [if_pos hk]; exact hf, fun k2 => ?_⟩
      simp only [lookup, beq_iff_eq, hk, eq_comm (a := k2)]
      split <;> rfl
    · rw [if_neg hk, Option.map_eq_some_iff] at h
      obtain ⟨t, hs, rfl⟩ := h
      obtain ⟨v', hb, hl⟩ := lookup_setMember k f kvs t hs
      refine ⟨v', by rw [if_neg hk]; exact hb, fun k2 => ?_⟩
      simp only [lookup, beq_iff_eq, hl]
      by_cases h2 : k' = k2
      · rw [if_pos h2, if_neg (h2 ▸ hk), if_pos h2]
      · rw [if_neg h2, if_neg h2]

theorem setMember_same (k : Str) (f : Json → Option Json) : ∀ (kvs kvs' : List (Str × Json)),
    setMember k f kvs = some kvs' → ∃ v v', lookup k kvs = some v ∧ f v = some v' ∧ lookup k kvs' = some v' := by
  intro kvs kvs' h
  obtain ⟨v', hb, hl⟩ := lookup_setMember k f kvs kvs' h
  obtain ⟨v, hv, hf⟩ := Option.bind_eq_some_iff.mp hb
  exact ⟨v, v', hv, hf, by rw [hl, if_pos rfl]⟩

theorem setMember_other (k k2 : Str) (hne : (k2 == k) = false) (f : Json → Option Json) : ∀ (kvs kvs' : List (Str × Json)),
    setMember k f kvs = some kvs' → lookup k2 kvs' = lookup k2 kvs := by
  intro kvs kvs' h
  obtain ⟨_, _, hl⟩ := lookup_setMember k f kvs kvs' h
  rw [hl, if_neg (beq_eq_false_iff_ne.mp hne)]

/-- `setElem` is `List.set` with the value that `f` makes of the old one -/
theorem setElem_eq (f : Json → Option Json) : ∀ (i : Nat) (xs : List Json), setElem i f xs = ((xs[i]?).bind f).map (xs.set i)
  | _, [] => by simp [setElem]
  | 0, x :: xs => rfl
  | i+1, x :: xs => by rw [setElem, setElem_eq f i xs, Option.map_map]; rfl

theorem setElem_same (f : Json → Option Json) : ∀ (i : Nat) (xs xs' : List Json),
    setElem i f xs = some xs' → ∃ v v', xs[i]? = some v ∧ f v = some v' ∧ xs'[i]? = some v' := by
  intro i xs xs' h
  rw [setElem_eq, Option.map_eq_some_iff] at h
  obtain ⟨v', hb, rfl⟩ := h
  obtain ⟨v, hv, hf⟩ := Option.bind_eq_some_iff.mp hb
  exact ⟨v, v', hv, hf, List.getElem?_set_self (List.getElem?_eq_some_iff.mp hv).1⟩

theorem setElem_other (f : Json → Option Json) : ∀ (i j : Nat) (xs xs' : List Json), j ≠ i →
    setElem i f xs = some xs' → xs'[j]? = xs[j]? := by
  intro i j xs xs' hne h
  rw [setElem_eq, Option.map_eq_some_iff] at h
  obtain ⟨v', _, rfl⟩ := h
  exact List.getElem?_set_ne (Ne.symm hne)

/-- one step of a write: the child at `s` exists and the rest of the write is done in it; the other children stay -/
theorem setAt_cons {v : Json} {s : PStep} {r : List PStep} {d d' : Json} (h : setAt v d (s :: r) = some d') :
    ∃ a b, setAt v a r = some b ∧ (∀ r', getAt d (s :: r') = getAt a r') ∧ (∀ r', getAt d' (s :: r') = getAt b r') ∧
      ∀ s' r', s' ≠ s → getAt d' (s' :: r') = getAt d (s' :: r') := by
  cases s with
  | name k =>
    cases d with
    | obj kvs =>
      obtain ⟨kvs', hs, rfl⟩ := Option.map_eq_some_iff.mp h
      obtain ⟨a, b, h1, h2, h3⟩ := setMember_same k _ kvs kvs' hs
      refine ⟨a, b, h2, fun r' => by simp [getAt, h1], fun r' => by simp [getAt, h3], fun s' r' hne => ?_⟩
      cases s' with
      | name k2 => simp [getAt, setMember_other k k2 (by simpa using hne) _ kvs kvs' hs]
      | index j => rfl
    | _ => exact nomatch h
  | index i =>
    cases d with
    | arr xs =>
      obtain ⟨xs', hs, rfl⟩ := Option.map_eq_some_iff.mp h
      obtain ⟨a, b, h1, h2, h3⟩ := setElem_same _ i xs xs' hs
      refine ⟨a, b, h2, fun r' => by simp [getAt, h1], fun r' => by simp [getAt, h3], fun s' r' hne => ?_⟩
      cases s' with
      | name k2 => rfl
      | index j => simp [getAt, setElem_other _ i j xs xs' (by simpa using hne) hs]
    | _ => exact nomatch h

/-- put-get: after a successful write, reading the same steps gives the written value; and a write
succeeds only where a read does -/
theorem put_get (v : Json) : ∀ (steps : List PStep) (d d' : Json), setAt v d steps = some d' →
    getAt d' steps = some v ∧ (getAt d steps).isSome
  | [], d, d', h => by simp [setAt] at h; subst h; simp [getAt]
  | s :: r, d, d', h => by
    obtain ⟨a, b, hs, ha, hb, _⟩ := setAt_cons h
    rw [ha, hb]
    exact put_get v r a b hs

/-- two step lists part ways: at the first difference they name different members / indices -/
inductive Diverge : List PStep → List PStep → Prop
  | name (k k' : Str) (r r') : (k' == k) = false → Diverge (.name k :: r) (.name k' :: r')
  | index (i j : Nat) (r r') : j ≠ i → Diverge (.index i :: r) (.index j :: r')
  | mixed1 (k : Str) (j : Nat) (r r') : Diverge (.name k :: r) (.index j :: r')
  | mixed2 (i : Nat) (k' : Str) (r r') : Diverge (.index i :: r) (.name k' :: r')
  | consN (k : Str) (r r') : Diverge r r' → Diverge (.name k :: r) (.name k :: r')
  | consI (i : Nat) (r r') : Diverge r r' → Diverge (.index i :: r) (.index i :: r')

theorem frame_head {v : Json} {s s' : PStep} {r : List PStep} {d d' : Json} (h : setAt v d (s :: r) = some d') (hne : s' ≠ s)
    (r' : List PStep) : getAt d' (s' :: r') = getAt d (s' :: r') :=
  let ⟨_, _, _, _, _, ho⟩ := setAt_cons h
  ho s' r' hne

/-- frame: a write changes nothing at any location that diverges from the written one -/
theorem frame (v : Json) : ∀ (steps other : List PStep) (d d' : Json), Diverge steps other →
    setAt v d steps = some d' → getAt d' other = getAt d other := by
  intro steps other d d' hd
  induction hd generalizing d d' with
  | name k k' r r' hne | index i j r r' hne => exact fun h => frame_head h (by simpa using hne) r'
  | mixed1 k j r r' | mixed2 i k' r r' => exact fun h => frame_head h (by simp) r'
  | consN k r r' _ ih | consI i r r' _ ih =>
    intro h
    obtain ⟨a, b, hs, ha, hb, _⟩ := setAt_cons h
    rw [ha, hb]
    exact ih a b hs

#print axioms put_get
#print axioms frame
#print axioms walk_spec
theorem Diverge.symm : ∀ {a b : List PStep}, Diverge a b → Diverge b a := by
  intro a b h
  induction h with
  | name k k' r r' h => exact .name k' k r' r (beq_false_of_ne (beq_eq_false_iff_ne.mp h).symm)
  | index i j r r' h => exact .index j i r' r (Ne.symm h)
  | mixed1 k j r r' => exact .mixed2 j k r' r
  | mixed2 i k' r r' => exact .mixed1 k' i r' r
  | consN k r r' _ ih => exact .consN k r' r ih
  | consI i r r' _ ih => exact .consI i r' r ih

/-- a sequence of writes `*reference_mut(pathᵢ)? = vᵢ`, each applied to the document left by the previous one -/
def writeAll : Json → List (List PStep × Json) → Option Json
  | d, [] => some d
  | d, (s, v) :: ws => (setAt v d s).bind fun d1 => writeAll d1 ws

/-- nothing outside the written locations changes, however many writes there are -/
theorem history_frame : ∀ (ws : List (List PStep × Json)) (d d' : Json) (other : List PStep),
    (∀ sv ∈ ws, Diverge sv.1 other) → writeAll d ws = some d' → getAt d' other = getAt d other
  | [], d, d', _, _, h => by simp [writeAll] at h; subst h; rfl
  | (s, v) :: ws, d, d', other, hdiv, h => by
    obtain ⟨d1, h1, h⟩ := Option.bind_eq_some_iff.mp h
    rw [history_frame ws d1 d' other (fun sv hsv => hdiv sv (List.mem_cons_of_mem _ hsv)) h]
    exact frame v s other d d1 (hdiv (s, v) List.mem_cons_self) h1

/-- history: updates through pairwise diverging paths (e.g. the paths one query returned for different, non-nested nodes)
each take effect – afterwards every written location holds its new value -/
theorem history_put_get : ∀ (ws : List (List PStep × Json)) (d d' : Json),
    ws.Pairwise (fun a b => Diverge a.1 b.1) → writeAll d ws = some d' → ∀ sv ∈ ws, getAt d' sv.1 = some sv.2
  | [], _, _, _, _, sv, hsv => by simp at hsv
  | (s, v) :: ws, d, d', hp, h, sv, hsv => by
    obtain ⟨d1, h1, h⟩ := Option.bind_eq_some_iff.mp h
    rw [List.pairwise_cons] at hp
    rcases List.mem_cons.mp hsv with rfl | hsv
    · -- the first write survives all later ones: they diverge from it
      rw [history_frame ws d1 d' s (fun sv' hsv' => (hp.1 sv' hsv').symm) h]
      exact (put_get v s d d1 h1).1
    · exact history_put_get ws d1 d' hp.2 h sv hsv

/-- get law tied to locations and to queries (AST level): the walk that `reference` performs over the AST of the Normalized Path of
`l` returns the node at `l` – the same node, at the same location, that running that path as a query returns (`C03c_ast`) – and
`None` when `l` does not exist -/
theorem reference_get_ast (d : Json) (l : Loc) (h : plainLoc l = true) :
    (pathSteps (segsOfLoc l)).bind (walk d []) = (d.at l).map fun v => (l, v) := by
  rw [pathSteps_segsOfLoc l h, Option.bind_some, walk_spec, getAt_eq_at, stepLoc_locSteps, List.nil_append]

/-- non-vacuity: names with `/`, `~`, blanks and digits are plain (they need no escaping in a Normalized Path) -/
example : plainLoc [.key "a/b".toList, .idx 3, .key "~0".toList, .key "x y".toList, .key "10".toList] = true := by decide

end JP.C09
