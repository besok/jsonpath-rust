import JsonPathVerif.Api
/-! # C12 – entry points agree and evaluation is a pure function

What Lean carries here is thin and is labelled so (DESIGN 5.12): the *model* of the entry points is a projection of one
result, and a session over the model is stateless by construction.  That the real code has no hidden state (caches,
interior mutability, data races) is carried by the history / thread correspondence of the check. -/
namespace JP.C12

/-- `query` returns, position by position, the nodes of `query_with_path` -/
theorem query_is_projection (E : Engine) (s : Str) (d : Json) (ps : List Ptr) (h : queryWithPath E s d = .ok ps) :
    queryVals E s d = .ok (ps.map fun p => (p.loc, p.inner)) := by
  simp only [queryWithPath] at h; simp [queryVals, h]
/-- `query_only_path` returns, position by position, the paths of `query_with_path` -/
theorem paths_is_projection (E : Engine) (s : Str) (d : Json) (ps : List Ptr) (h : queryWithPath E s d = .ok ps) :
    queryPaths E s d = .ok (ps.map (·.path)) := by
  simp only [queryWithPath] at h; simp [queryPaths, h]
/-- the three entry points fail together -/
theorem errors_agree (E : Engine) (s : Str) (d : Json) (h : queryWithPath E s d = .error ()) :
    queryVals E s d = .error () ∧ queryPaths E s d = .error () := by
  simp only [queryWithPath] at h; simp [queryVals, queryPaths, h]
/-- same lengths: position-by-position agreement is meaningful -/
theorem same_length (E : Engine) (s : Str) (d : Json) (ps : List Ptr) (vs : List (Loc × Json)) (qs : List Str)
    (h : queryWithPath E s d = .ok ps) (hv : queryVals E s d = .ok vs) (hq : queryPaths E s d = .ok qs) :
    vs.length = ps.length ∧ qs.length = ps.length := by
  rw [query_is_projection E s d ps h] at hv; rw [paths_is_projection E s d ps h] at hq
  cases hv; cases hq; simp
/-- parse once = parse at every call -/
theorem parse_once (E : Engine) (s : Str) (q : List Segment) (h : parseJsonPath s = .ok q) (d : Json) :
    jsPath E s d = jsPathProcess E q d := by simp [jsPath, h]
/-- the result of an operation does not depend on the history before or after it -/
theorem history_independent (E : Engine) (pre post : List Op) (op : Op) :
    (runSession E (pre ++ [op] ++ post))[pre.length]? = some (runOp E op) := by
  simp [runSession]
/-- repetition gives the identical result -/
theorem repeatable (E : Engine) (op : Op) (n : Nat) : ∀ r ∈ runSession E (List.replicate n op), r = runOp E op := by
  intro r hr; simp [runSession] at hr; exact hr.2

end JP.C12
