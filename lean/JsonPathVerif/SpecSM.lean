import JsonPathVerif.Nodes
import JsonPathVerif.KF
/-! C02, exact characterisation of the deviation: the evaluator concatenates a multi-selector segment
selector-major (all results of the first selector over all input nodes, then the second, …) where RFC 9535 prescribes
node-major.  `Spec.querySM` is the RFC semantics with exactly that one change.  This file relates the two on the
specification side alone: the variant is a permutation of the RFC nodelist, and equal to it wherever no multi-selector
segment receives two or more nodes. -/
namespace JP
variable (E : Engine) (root : Json)

theorem flatMap_append_perm {α β} (l : List α) (f g : α → List β) :
    (l.flatMap f ++ l.flatMap g).Perm (l.flatMap fun a => f a ++ g a) := by
  induction l with
  | nil => simp
  | cons a l ih =>
    simp only [List.flatMap_cons, List.append_assoc]
    refine .append_left _ (.trans ?_ (ih.append_left _))
    simp only [← List.append_assoc]
    exact List.perm_append_comm.append_right _

namespace Spec
def selAllSM (E : Engine) (root : Json) (ss : List Selector) (ns : List Node) : List Node := ss.flatMap fun s => ns.flatMap (sel E root s)
def segSM (E : Engine) (root : Json) : Segment → List Node → List Node
  | .selector s, ns => ns.flatMap (sel E root s)
  | .selectors ss, ns => selAllSM E root ss ns
  | .descendant s, ns => segSM E root s (ns.flatMap fun n => desc n.1 n.2)
def segsSM (E : Engine) (root : Json) : List Segment → List Node → List Node
  | [], ns => ns
  | s :: ss, ns => segsSM E root ss (segSM E root s ns)
def querySM (E : Engine) (ss : List Segment) (d : Json) : List Node := segsSM E d ss [([], d)]
end Spec

theorem Spec.selAllSM_cons (s : Selector) (ss : List Selector) (ns : List Spec.Node) :
    Spec.selAllSM E root (s :: ss) ns = ns.flatMap (Spec.sel E root s) ++ Spec.selAllSM E root ss ns := List.flatMap_cons

theorem Spec.selAllSM_perm : ∀ (ss : List Selector) (ns : List Spec.Node),
    (Spec.selAllSM E root ss ns).Perm (ns.flatMap (Spec.selAll E root ss))
  | [], ns => by simp [Spec.selAllSM, Spec.selAll]
  | s :: ss, ns => by
    rw [Spec.selAllSM_cons]
    exact ((Spec.selAllSM_perm ss ns).append_left _).trans (flatMap_append_perm ns _ _)

/-- both semantics respect permutations of the input, and the variant is a permutation of the RFC's -/
theorem Spec.segSM_perm : ∀ (s : Segment) {a b : List Spec.Node}, a.Perm b → (Spec.segSM E root s a).Perm (Spec.seg E root s b)
  | .selector _, _, _, h => h.flatMap_right _
  | .selectors ss, a, _, h => (Spec.selAllSM_perm E root ss a).trans (h.flatMap_right _)
  | .descendant s, _, _, h => Spec.segSM_perm s (h.flatMap_right _)

theorem Spec.segsSM_perm : ∀ (ss : List Segment) {a b : List Spec.Node}, a.Perm b → (Spec.segsSM E root ss a).Perm (Spec.segs E root ss b)
  | [], _, _, h => h
  | s :: ss, _, _, h => Spec.segsSM_perm ss (Spec.segSM_perm E root s h)

/-- with at most one input node the two concatenation orders coincide -/
theorem selAllSM_small : ∀ (ss : List Selector) (ns : List Spec.Node), ns.length ≤ 1 →
    Spec.selAllSM E root ss ns = ns.flatMap (Spec.selAll E root ss)
  | [], ns, _ => by simp [Spec.selAllSM, Spec.selAll]
  | _ :: ss, [], _ => by simp [Spec.selAllSM]
  | s :: ss, [n], h => by simpa [Spec.selAllSM, Spec.selAll] using selAllSM_small ss [n] h

/-- with at most one selector the two concatenation orders coincide as well -/
theorem selAllSM_single (ss : List Selector) (ns : List Spec.Node) (h : ss.length ≤ 1) :
    Spec.selAllSM E root ss ns = ns.flatMap (Spec.selAll E root ss) := by
  match ss, h with
  | [], _ | [_], _ => simp [Spec.selAllSM, Spec.selAll]

/-- a segment agrees with the RFC order unless it has several selectors AND receives several nodes -/
theorem segSM_eq : ∀ (s : Segment) (ns : List Spec.Node), KF.segSelCount s ≤ 1 ∨ (KF.segInput s ns).length ≤ 1 →
    Spec.segSM E root s ns = Spec.seg E root s ns
  | .selector _, _, _ => rfl
  | .selectors ss, ns, h => h.elim (selAllSM_single E root ss ns) (selAllSM_small E root ss ns)
  | .descendant s, _, h => segSM_eq s _ h

def noMultiOnMulti : List Segment → List Spec.Node → Prop
  | [], _ => True
  | s :: ss, ns => (KF.segSelCount s ≤ 1 ∨ (KF.segInput s ns).length ≤ 1) ∧ noMultiOnMulti ss (Spec.seg E root s ns)

/-- the Boolean class evaluated by the check on every generated case is exactly the hypothesis of the theorem -/
theorem noMulti_of_flag : ∀ (ss : List Segment) (ns : List Spec.Node), KF.multiSelOnMulti E root ss ns = false → noMultiOnMulti E root ss ns
  | [], _, _ => trivial
  | s :: ss, ns, h => by
    simp only [KF.multiSelOnMulti, Bool.or_eq_false_iff, Bool.and_eq_false_imp, decide_eq_true_eq, decide_eq_false_iff_not] at h
    refine ⟨?_, noMulti_of_flag ss _ h.2⟩
    by_cases hc : KF.segSelCount s ≥ 2
    · right; have := h.1 hc; omega
    · left; omega

theorem segsSM_eq : ∀ (ss : List Segment) (ns : List Spec.Node), noMultiOnMulti E root ss ns →
    Spec.segsSM E root ss ns = Spec.segs E root ss ns
  | [], _, _ => rfl
  | s :: ss, ns, h => by
    simp only [Spec.segsSM, Spec.segs, segSM_eq E root s ns h.1]
    exact segsSM_eq ss _ h.2

/-- no multi-selector segment at the top level -/
def unionFreeSeg : Segment → Prop
  | .selector _ => True
  | .descendant (.selector _) => True
  | _ => False
def unionFreeSegs : List Segment → Prop
  | [] => True
  | s :: ss => unionFreeSeg s ∧ unionFreeSegs ss

theorem noMulti_of_unionFree : ∀ (ss : List Segment) (ns : List Spec.Node), unionFreeSegs ss → noMultiOnMulti E root ss ns
  | [], _, _ => trivial
  | s :: ss, ns, h => by
    refine ⟨.inl ?_, noMulti_of_unionFree ss _ h.2⟩
    match s, h.1 with
    | .selector _, _ | .descendant (.selector _), _ => exact Nat.le_refl 1

/-! Selectors select nothing from a scalar.  (The evaluator's descendant walk collects containers only.) -/

theorem Spec.sel_scalar (s : Selector) (n : Spec.Node) (h : isCont n = false) : Spec.sel E root s n = [] := by
  obtain ⟨l, j⟩ := n
  cases s <;> cases j <;> simp_all [isCont, Spec.sel, Spec.selName, Spec.selIndex, Spec.children]

theorem flatMap_filter_of_nil {α β} (p : α → Bool) (f : α → List β) (l : List α)
    (h : ∀ a, p a = false → f a = []) : (l.filter p).flatMap f = l.flatMap f := by
  induction l with
  | nil => rfl
  | cons a l ih => cases hp : p a <;> simp [hp, ih, h a]

/-- so a segment's selectors may be run on the containers among the input alone -/
theorem Spec.flatMap_sel_cont (s : Selector) (ns : List Spec.Node) :
    (cont ns).flatMap (Spec.sel E root s) = ns.flatMap (Spec.sel E root s) :=
  flatMap_filter_of_nil isCont _ ns (Spec.sel_scalar E root s)

theorem Spec.selAllSM_cont (ss : List Selector) (ns : List Spec.Node) :
    Spec.selAllSM E root ss (cont ns) = Spec.selAllSM E root ss ns := by
  simp only [Spec.selAllSM, Spec.flatMap_sel_cont]

end JP
