import JsonPathVerif.Eval
/-! C11: index and slice arithmetic. `SpecS.*` is a literal transcription of RFC 9535
2.3.3.2 / 2.3.4.2.2; the theorems relate it to the model of the Rust code and characterise it. -/
namespace JP
namespace SpecS

/-- RFC 2.3.3.2: index `i` on an array of length `len` -/
def index (i len : Int) : Option Int :=
  let j := if i ≥ 0 then i else len + i
  if 0 ≤ j ∧ j < len then some j else none

def normalize (i len : Int) : Int := if i ≥ 0 then i else len + i

/-- RFC `Bounds` -/
def bounds (start end_ step len : Int) : Int × Int :=
  let n_start := normalize start len
  let n_end := normalize end_ len
  if step ≥ 0 then (min (max n_start 0) len, min (max n_end 0) len)
  else (min (max n_end (-1)) (len - 1), min (max n_start (-1)) (len - 1))

def up (step upper i : Int) (h : 0 < step) : List Int :=
  if i < upper then i :: up step upper (i + step) h else []
termination_by (upper - i).toNat
decreasing_by omega

def down (step lower i : Int) (h : step < 0) : List Int :=
  if lower < i then i :: down step lower (i + step) h else []
termination_by (i - lower).toNat
decreasing_by omega

/-- RFC 2.3.4.2.2 with the defaults of 2.3.4.2.1 -/
def slice (start end_ step : Option Int) (len : Int) : List Int :=
  let st := step.getD 1
  if h : st > 0 then
    let (lower, upper) := bounds (start.getD 0) (end_.getD len) st len
    up st upper lower h
  else if h : st < 0 then
    let (lower, upper) := bounds (start.getD (len - 1)) (end_.getD (-len - 1)) st len
    down st lower upper h
  else []

end SpecS

/-- what `process_index` selects, as an index -/
def implIndex (idx : Int) (len : Nat) : Option Nat :=
  if idx ≥ 0 then (if idx ≥ len then none else some idx.toNat)
  else (let a := idx.natAbs; if a > len then none else some (len - a))

theorem implIndex_spec (idx : Int) (len : Nat) :
    (implIndex idx len).map (fun (n : Nat) => (n : Int)) = SpecS.index idx len := by
  unfold implIndex SpecS.index
  by_cases h : idx ≥ 0
  · by_cases h2 : idx ≥ (len : Int) <;> simp [h, h2] <;> omega
  · by_cases h2 : idx.natAbs > len <;> simp [h, h2] <;> omega

theorem loopPos_eq_up (e upper i : Int) (h : 0 < e) : loopPos e upper i h = SpecS.up e upper i h := by
  fun_induction loopPos e upper i h with
  | case1 i hlt ih => rw [SpecS.up]; simp [hlt, ih]
  | case2 i hlt => rw [SpecS.up]; simp [hlt]

theorem loopNeg_eq_down (e lower i : Int) (h : e < 0) : loopNeg e lower i h = SpecS.down e lower i h := by
  fun_induction loopNeg e lower i h with
  | case1 i hlt ih => rw [SpecS.down]; simp [hlt, ih]
  | case2 i hlt => rw [SpecS.down]; simp [hlt]

theorem slice_pos (a b c : Option Int) (len : Int) (h : 0 < c.getD 1) :
    SpecS.slice a b c len = SpecS.up (c.getD 1) (min (max (SpecS.normalize (b.getD len) len) 0) len)
      (min (max (SpecS.normalize (a.getD 0) len) 0) len) h := by
  rw [SpecS.slice, dif_pos h, SpecS.bounds, if_pos (Int.le_of_lt h)]

theorem slice_neg (a b c : Option Int) (len : Int) (h : c.getD 1 < 0) :
    SpecS.slice a b c len = SpecS.down (c.getD 1) (min (max (SpecS.normalize (b.getD (-len - 1)) len) (-1)) (len - 1))
      (min (max (SpecS.normalize (a.getD (len - 1)) len) (-1)) (len - 1)) h := by
  rw [SpecS.slice, dif_neg (Int.lt_asymm h), dif_pos h, SpecS.bounds, if_neg (Int.not_le.2 h)]

theorem slice_zero (a b c : Option Int) (len : Int) (h1 : ¬ 0 < c.getD 1) (h2 : ¬ c.getD 1 < 0) :
    SpecS.slice a b c len = [] := by
  rw [SpecS.slice, dif_neg h1, dif_neg h2]

/-- the Rust slice arithmetic computes exactly the RFC index sequence -/
theorem sliceIndices_spec (a b c : Option Int) (len : Int) :
    sliceIndices a b c len = SpecS.slice a b c len := by
  by_cases h1 : 0 < c.getD 1
  · rw [slice_pos a b c len h1, ← loopPos_eq_up]
    exact dif_pos h1
  · by_cases h2 : c.getD 1 < 0
    · rw [slice_neg a b c len h2, ← loopNeg_eq_down]
      exact (dif_neg h1).trans (dif_pos h2)
    · rw [slice_zero a b c len h1 h2]
      exact (dif_neg h1).trans (dif_neg h2)

theorem up_mem (e upper i : Int) (h : 0 < e) : ∀ x ∈ SpecS.up e upper i h, i ≤ x ∧ x < upper := by
  fun_induction SpecS.up e upper i h with
  | case1 i hlt ih =>
    intro x hx; simp only [List.mem_cons] at hx
    rcases hx with rfl | hx
    · omega
    · have := ih x hx; omega
  | case2 => intro x hx; simp at hx

theorem down_mem (e lower i : Int) (h : e < 0) : ∀ x ∈ SpecS.down e lower i h, lower < x ∧ x ≤ i := by
  fun_induction SpecS.down e lower i h with
  | case1 i hlt ih =>
    intro x hx; simp only [List.mem_cons] at hx
    rcases hx with rfl | hx
    · omega
    · have := ih x hx; omega
  | case2 => intro x hx; simp at hx

theorem clamp_mem {lo hi : Int} (h : lo ≤ hi) (x : Int) : lo ≤ min (max x lo) hi ∧ min (max x lo) hi ≤ hi :=
  ⟨Int.le_min.2 ⟨Int.le_max_right .., h⟩, Int.min_le_right ..⟩

/-- every index the slice yields is an index of the array -/
theorem slice_inRange (a b c : Option Int) (len : Int) (hlen : 0 ≤ len) :
    ∀ x ∈ SpecS.slice a b c len, 0 ≤ x ∧ x < len := by
  intro x hx
  by_cases h1 : 0 < c.getD 1
  · rw [slice_pos a b c len h1] at hx
    have hx := up_mem _ _ _ _ x hx
    exact ⟨Int.le_trans (clamp_mem hlen _).1 hx.1, Int.lt_of_lt_of_le hx.2 (clamp_mem hlen _).2⟩
  · by_cases h2 : c.getD 1 < 0
    · rw [slice_neg a b c len h2] at hx
      have hx := down_mem _ _ _ _ x hx
      have hl : -1 ≤ len - 1 := by omega
      exact ⟨Int.lt_of_le_of_lt (clamp_mem hl _).1 hx.1, Int.lt_of_le_sub_one (Int.le_trans hx.2 (clamp_mem hl _).2)⟩
    · rw [slice_zero a b c len h1 h2] at hx
      cases hx

/-- arithmetic progression, stated on the list: consecutive elements differ by `e` -/
inductive Prog (e : Int) : List Int → Prop
  | nil : Prog e []
  | single (x) : Prog e [x]
  | cons (x y l) : y = x + e → Prog e (y :: l) → Prog e (x :: y :: l)

theorem up_prog (e upper i : Int) (h : 0 < e) :
    Prog e (SpecS.up e upper i h) ∧ (SpecS.up e upper i h).head? = (if i < upper then some i else none) := by
  fun_induction SpecS.up e upper i h with
  | case1 i hlt ih =>
    obtain ⟨ih1, ih2⟩ := ih
    refine ⟨?_, by simp [hlt]⟩
    cases hl : SpecS.up e upper (i + e) h with
    | nil => exact Prog.single i
    | cons y l =>
      rw [hl] at ih1 ih2
      refine Prog.cons i y l ?_ ih1
      simp only [List.head?_cons] at ih2
      split at ih2 <;> simp_all
  | case2 i hlt => exact ⟨Prog.nil, by simp [hlt]⟩

/-- maximality: the element after the last one is outside the half-open range -/
theorem up_maximal (e upper i : Int) (h : 0 < e) :
    ∀ x, (SpecS.up e upper i h).getLast? = some x → upper ≤ x + e := by
  fun_induction SpecS.up e upper i h with
  | case1 i hlt ih =>
    intro x hx
    cases hl : SpecS.up e upper (i + e) h with
    | nil =>
      rw [hl] at hx; simp at hx; subst hx
      have : ¬ (i + e < upper) := by
        intro hc; rw [SpecS.up] at hl; simp [hc] at hl
      omega
    | cons y l =>
      rw [hl] at hx ih
      apply ih x
      simpa [List.getLast?_cons_cons] using hx
  | case2 => intro x hx; simp at hx

#print axioms sliceIndices_spec
#print axioms slice_inRange
#print axioms up_prog
#print axioms up_maximal
#print axioms implIndex_spec
end JP
