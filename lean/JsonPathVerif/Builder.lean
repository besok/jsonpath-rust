import JsonPathVerif.Parser
/-! What a successful run of the builder of `parser.rs` guarantees, whatever pair tree it is handed: for a family of predicates,
one per category of the AST, that is closed under the builder's constructions (`AstClass`), every result lies in its predicate
(`builder_inv`).  Typing (`ParserWT`) and integer ranges (`ParserRG`) are instances. -/
namespace JP

theorem bind_ok {α β} {x : R α} {f : α → R β} {b : β} (h : (x >>= f) = .ok b) : ∃ a, x = .ok a ∧ f a = .ok b := by
  cases x with
  | error e => cases h
  | ok a => exact ⟨a, rfl, h⟩

theorem then_ok {α} {c : Prop} [Decidable c] {x : R α} {a : α} (h : (if c then x else err) = .ok a) : c ∧ x = .ok a := by
  split at h
  · exact ⟨‹c›, h⟩
  · cases h

theorem else_ok {α} {c : Prop} [Decidable c] {x : R α} {a : α} (h : (if c then err else x) = .ok a) : ¬c ∧ x = .ok a := by
  split at h
  · cases h
  · exact ⟨‹¬c›, h⟩

theorem mapR_all {α β} {f : α → R β} {P : β → Prop} (hf : ∀ x y, f x = .ok y → P y) :
    ∀ {l ys}, mapR f l = .ok ys → ∀ y ∈ ys, P y
  | [], _, h => by cases h; nofun
  | x :: xs, _, h => by
    unfold mapR at h
    split at h
    · split at h
      · cases h
        exact List.forall_mem_cons.2 ⟨hf _ _ ‹_›, mapR_all hf ‹_›⟩
      · cases h
    · cases h

theorem foldlM_ok {σ α} {f : σ → α → R σ} {P : σ → Prop} (hf : ∀ s a s', P s → f s a = .ok s' → P s') :
    ∀ {l : List α} {s s' : σ}, P s → l.foldlM f s = .ok s' → P s'
  | [], _, _, hs, h => by cases h; exact hs
  | a :: l, _, _, hs, h => by
    rw [List.foldlM_cons] at h
    obtain ⟨s1, h1, h2⟩ := bind_ok h
    exact foldlM_ok hf (hf _ a s1 hs h1) h2

/-- a `Bool`-valued conjunction over a list, written as a recursive function of its own (as the mutual blocks need it) -/
theorem conj_of_all {α} (p : α → Bool) (ps : List α → Bool) (nil : ps [] = true) (cons : ∀ a as, ps (a :: as) = (p a && ps as)) :
    ∀ l, (∀ a ∈ l, p a = true) → ps l = true
  | [], _ => nil
  | a :: as, h => by
    rw [cons, h a (List.mem_cons_self ..), conj_of_all p ps nil cons as fun b hb => h b (List.mem_cons_of_mem _ hb)]
    rfl

/-- `TestFunction::try_new`: the calls it lets through -/
theorem tryNewFn_cases {name : Str} {args : List FnArg} {f : TestFunction} (h : tryNewFn name args = .ok f) :
    (∃ a, args = [a] ∧ a.isValueType = true ∧ f = .length a) ∨
    (∃ a, args = [a] ∧ a.isNodesType = true ∧ (f = .value a ∨ f = .count a)) ∨
    (∃ a b, args = [a, b] ∧ a.isValueType = true ∧ b.isValueType = true ∧ (f = .search a b ∨ f = .match a b)) ∨
    f = .custom name args := by
  unfold tryNewFn at h
  -- one test of the name at a time: `split at h` on a chain of `if`s costs twice as much with every level
  by_cases h1 : name == "length".toList
  · rw [if_pos h1] at h
    split at h
    · obtain ⟨hv, h⟩ := then_ok h
      cases h; exact .inl ⟨_, rfl, hv, rfl⟩
    · cases h
  rw [if_neg h1] at h
  by_cases h2 : name == "value".toList
  · rw [if_pos h2] at h
    split at h
    · obtain ⟨hn, h⟩ := then_ok h
      cases h; exact .inr (.inl ⟨_, rfl, hn, .inl rfl⟩)
    · cases h
  rw [if_neg h2] at h
  by_cases h3 : name == "count".toList
  · rw [if_pos h3] at h
    split at h
    · obtain ⟨hn, h⟩ := then_ok (else_ok h).2
      cases h; exact .inr (.inl ⟨_, rfl, hn, .inr rfl⟩)
    · cases h
  rw [if_neg h3] at h
  by_cases h4 : name == "search".toList
  · rw [if_pos h4] at h
    split at h
    · obtain ⟨hv, h⟩ := then_ok h
      have ⟨ha, hb⟩ := Bool.and_eq_true_iff.1 hv
      cases h; exact .inr (.inr (.inl ⟨_, _, rfl, ha, hb, .inl rfl⟩))
    · cases h
  rw [if_neg h4] at h
  by_cases h5 : name == "match".toList
  · rw [if_pos h5] at h
    split at h
    · obtain ⟨hv, h⟩ := then_ok h
      have ⟨ha, hb⟩ := Bool.and_eq_true_iff.1 hv
      cases h; exact .inr (.inr (.inl ⟨_, _, rfl, ha, hb, .inr rfl⟩))
    · cases h
  rw [if_neg h5] at h
  cases (else_ok h).2
  exact .inr (.inr (.inr rfl))

/-- `singular_query`: the segments are those of `sqSegB` -/
theorem singularB_ok {inp : Inp} {rule : PairT} {c : Comparable} (h : singularB inp rule = .ok c) :
    ∃ root q segs, sqSegsB inp q = .ok segs ∧ c = .sq root segs := by
  unfold singularB at h
  obtain ⟨q, -, h⟩ := bind_ok h
  obtain ⟨q', -, h⟩ := bind_ok h
  obtain ⟨segs, hs, h⟩ := bind_ok h
  split at h
  · cases h; exact ⟨_, _, _, hs, rfl⟩
  · cases h; exact ⟨_, _, _, hs, rfl⟩
  · cases h

/-- `logical_expr_and`: the atoms of the conjunction, a single one as it is -/
theorem logicalExprAndB_ok {fuel : Nat} {inp : Inp} {p : PairT} {f : Filter} (h : logicalExprAndB (fuel+1) inp p = .ok f) :
    ∃ fs, (∀ g ∈ fs, ∃ r a, filterAtomB fuel inp r = .ok a ∧ g = .atom a) ∧ (fs = [f] ∨ f = .and fs) := by
  unfold logicalExprAndB at h
  generalize hm : mapR _ p.inner = m at h
  cases m with
  | error e => cases h
  | ok fs =>
    refine ⟨fs, mapR_all (fun r g hr => ?_) hm, ?_⟩
    · split at hr
      · cases hr; exact ⟨_, _, ‹_›, rfl⟩
      · cases hr
    · split at h
      · cases h; cases ‹Except.ok fs = _›; exact .inl rfl
      · cases h; cases ‹Except.ok fs = _›; exact .inr rfl
      · cases h

theorem parseJsonPath_ok {s : Str} {q : List Segment} (h : parseJsonPath s = .ok q) : ∃ fuel inp p, segmentsB fuel inp p = .ok q := by
  unfold parseJsonPath at h
  split at h
  · cases h
  · dsimp only at h
    split at h
    · split at h
      · obtain ⟨_, -, h⟩ := bind_ok h
        obtain ⟨_, -, h⟩ := bind_ok h
        exact ⟨_, _, _, h⟩
      · cases h
    · cases h

/-- A predicate for each category of the AST, closed under what the builder does to make a value of that category.  Where the
builder checks something first (`validate_range`, `try_new`, `is_comparable`), the closure fact may use that the check succeeded. -/
structure AstClass where
  segs : List Segment → Prop
  seg : Segment → Prop
  sel : Selector → Prop
  arg : FnArg → Prop
  fn : TestFunction → Prop
  test : Test → Prop
  flt : Filter → Prop
  atom : FilterAtom → Prop
  cmp : Comparable → Prop
  segs_of {ss} : (∀ s ∈ ss, seg s) → segs ss
  seg_sel {s} : sel s → seg (.selector s)
  seg_sels {ss} : (∀ s ∈ ss, sel s) → seg (.selectors ss)
  seg_desc {s} : seg s → seg (.descendant s)
  sel_wildcard : sel .wildcard
  sel_name n : sel (.name n)
  sel_index {v w} : validateRange v = .ok w → sel (.index w)
  sel_slice {inp p a b c} : sliceB inp p = .ok (a, b, c) → sel (.slice a b c)
  sel_filter {f} : flt f → sel (.filter f)
  arg_lit {inp p l} : literalB inp p = .ok l → arg (.lit l)
  arg_test {t} : test t → arg (.test t)
  arg_filter {f} : flt f → arg (.filter f)
  fn_new {name args f} : (∀ a ∈ args, arg a) → tryNewFn name args = .ok f → fn f
  test_rel {ss} : segs ss → test (.rel ss)
  test_abs {ss} : segs ss → test (.abs ss)
  test_fn {f} : fn f → test (.fn f)
  flt_or {fs} : (∀ f ∈ fs, flt f) → flt (.or fs)
  flt_and {fs} : (∀ f ∈ fs, flt f) → flt (.and fs)
  flt_atom {a} : atom a → flt (.atom a)
  atom_filter {e n} : flt e → atom (.filter e n)
  atom_cmp {op l r} : cmp l → cmp r → atom (.cmp op l r)
  atom_test {t n} : test t → (∀ f, t = .fn f → f.isComparable = false) → atom (.test t n)
  cmp_lit {inp p l} : literalB inp p = .ok l → cmp (.lit l)
  cmp_sq {inp q root sqs} : sqSegsB inp q = .ok sqs → cmp (.sq root sqs)
  cmp_fn {f} : fn f → f.isComparable = true → cmp (.fn f)

/-- what the builder guarantees at a given fuel, for every input text and EVERY pair tree -/
structure BuilderInv (C : AstClass) (fuel : Nat) : Prop where
  segments : ∀ inp p ss, segmentsB fuel inp p = .ok ss → C.segs ss
  childSegment : ∀ inp p sg, childSegmentB fuel inp p = .ok sg → C.seg sg
  segment : ∀ inp p sg, segmentB fuel inp p = .ok sg → C.seg sg
  selector : ∀ inp p sl, selectorB fuel inp p = .ok sl → C.sel sl
  fnArg : ∀ inp p a, fnArgB fuel inp p = .ok a → C.arg a
  functionExpr : ∀ inp p f, functionExprB fuel inp p = .ok f → C.fn f
  test : ∀ inp p t, testB fuel inp p = .ok t → C.test t
  logicalExpr : ∀ inp p f, logicalExprB fuel inp p = .ok f → C.flt f
  logicalExprAnd : ∀ inp p f, logicalExprAndB fuel inp p = .ok f → C.flt f
  filterAtom : ∀ inp p a, filterAtomB fuel inp p = .ok a → C.atom a
  comparable : ∀ inp p c, comparableB fuel inp p = .ok c → C.cmp c

theorem builder_inv (C : AstClass) (fuel : Nat) : BuilderInv C fuel := by
  induction fuel with
  | zero => exact ⟨nofun, nofun, nofun, nofun, nofun, nofun, nofun, nofun, nofun, nofun, nofun⟩
  | succ fuel ih => exact
    { segments := fun inp p ss h => by
        unfold segmentsB at h
        refine C.segs_of (mapR_all (fun r sg hr => ?_) h)
        split at hr
        · exact ih.segment _ _ _ hr
        · cases hr
      childSegment := fun inp p sg h => by
        unfold childSegmentB at h
        split at h
        · cases h; exact C.seg_sel C.sel_wildcard
        · cases h; exact C.seg_sel (C.sel_name _)
        · split at h
          · cases h; exact C.seg_sel (mapR_all (ih.selector inp) ‹_› _ (List.mem_singleton_self _))
          · cases h; exact C.seg_sels (mapR_all (ih.selector inp) ‹_›)
          · cases h
        · cases h
      segment := fun inp p sg h => by
        unfold segmentB at h
        split at h
        · have h := (else_ok h).2
          split at h
          · exact ih.childSegment _ _ _ h
          · cases h
        · split at h
          · cases h
          · have h := (else_ok h).2
            split at h
            · split at h
              · cases h; exact C.seg_desc (ih.childSegment _ _ _ ‹_›)
              · cases h
            · cases h
        · cases h
      selector := fun inp p sl h => by
        unfold selectorB at h
        split at h
        · cases h
        · split at h
          · split at h
            · cases h; exact C.sel_name _
            · cases h
          · cases h; exact C.sel_wildcard
          · split at h
            · split at h
              · cases h; exact C.sel_index ‹_›
              · cases h
            · cases h
          · split at h
            · cases h; exact C.sel_slice ‹_›
            · cases h
          · split at h
            · split at h
              · cases h; exact C.sel_filter (ih.logicalExpr _ _ _ ‹_›)
              · cases h
            · cases h
          · cases h
      fnArg := fun inp p a h => by
        unfold fnArgB at h
        split at h
        · cases h
        · split at h
          · split at h
            · cases h; exact C.arg_lit ‹_›
            · cases h
          · split at h
            · cases h; exact C.arg_test (ih.test _ _ _ ‹_›)
            · cases h
          · split at h
            · cases h; exact C.arg_filter (ih.logicalExpr _ _ _ ‹_›)
            · cases h
          · cases h
      functionExpr := fun inp p f h => by
        unfold functionExprB at h
        split at h
        · cases h
        · have h := (else_ok h).2
          split at h
          · exact C.fn_new (mapR_all (ih.fnArg inp) ‹_›) h
          · cases h
      test := fun inp p t h => by
        unfold testB at h
        split at h
        · cases h
        · split at h
          · split at h
            · split at h
              · cases h; exact C.test_abs (ih.segments _ _ _ ‹_›)
              · cases h
            · cases h
          · split at h
            · split at h
              · cases h; exact C.test_rel (ih.segments _ _ _ ‹_›)
              · cases h
            · cases h
          · split at h
            · cases h; exact C.test_fn (ih.functionExpr _ _ _ ‹_›)
            · cases h
          · cases h
      logicalExpr := fun inp p f h => by
        unfold logicalExprB at h
        split at h
        · cases h; exact mapR_all (ih.logicalExprAnd inp) ‹_› _ (List.mem_singleton_self _)
        · cases h; exact C.flt_or (mapR_all (ih.logicalExprAnd inp) ‹_›)
        · cases h
      logicalExprAnd := fun inp p f h => by
        obtain ⟨fs, hfs, hf⟩ := logicalExprAndB_ok h
        have hall : ∀ g ∈ fs, C.flt g := fun g hg => by
          obtain ⟨r, a, ha, rfl⟩ := hfs g hg
          exact C.flt_atom (ih.filterAtom _ _ _ ha)
        rcases hf with rfl | rfl
        · exact hall _ (List.mem_singleton_self _)
        · exact C.flt_and hall
      filterAtom := fun inp p a h => by
        unfold filterAtomB at h
        split at h
        · cases h
        · split at h
          · dsimp only at h
            split at h
            · split at h
              · cases h; exact C.atom_filter (mapR_all (ih.logicalExpr inp) ‹_› _ (List.mem_of_getLast? ‹_›))
              · cases h
            · cases h
          · split at h
            · split at h
              · split at h
                · split at h
                  · cases h; exact C.atom_cmp (ih.comparable _ _ _ ‹_›) (ih.comparable _ _ _ ‹_›)
                  · cases h
                · cases h
              · cases h
            · cases h
          · dsimp only at h
            split at h
            · have ht := mapR_all (ih.test inp) ‹_›
              split at h
              · obtain ⟨hc, h⟩ := else_ok h
                cases h
                exact C.atom_test (ht _ (List.mem_of_getLast? ‹_›)) fun f hf => by cases hf; exact eq_false_of_ne_true hc
              · cases h
                exact C.atom_test (ht _ (List.mem_of_getLast? ‹_›)) fun f hf => (‹∀ tf, _ = Test.fn tf → False› f hf).elim
              · cases h
            · cases h
          · cases h
      comparable := fun inp p c h => by
        unfold comparableB at h
        split at h
        · cases h
        · split at h
          · split at h
            · cases h; exact C.cmp_lit ‹_›
            · cases h
          · obtain ⟨_, _, _, hs, rfl⟩ := singularB_ok h
            exact C.cmp_sq hs
          · split at h
            · obtain ⟨hc, h⟩ := then_ok h
              cases h; exact C.cmp_fn (ih.functionExpr _ _ _ ‹_›) hc
            · cases h
          · cases h }

end JP
