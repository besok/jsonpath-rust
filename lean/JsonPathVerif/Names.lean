import JsonPathVerif.Nodes
/-! Name selectors whose lexeme contains no escape sequence: the evaluator's key handling (`normalizeKey`, the quote stripping of
`Value::get`) and the RFC's decoding agree on the member name they denote. -/
namespace JP

theorem normalizeKey_plain : ∀ (s : Str), '\\' ∉ s → normalizeKey s = s
  | [], _ => rfl
  | c :: r, h => by
    have hc : c ≠ '\\' := fun e => h (e ▸ .head _)
    rw [normalizeKey, normalizeKey_plain r (fun e => h (.tail _ e))]
    -- the side goals: the catch-all equation applies because `c` is not the backslash the earlier patterns begin with
    all_goals (intros; simp_all)

theorem unescape_plain : ∀ (fuel : Nat) (s : Str), '\\' ∉ s → s.length < fuel → Spec.unescape fuel s = some s
  | _, [], _, _ => by simp [Spec.unescape]
  | fuel+1, c :: r, h, hf => by
    have hc : c ≠ '\\' := fun e => h (e ▸ .head _)
    rw [Spec.unescape, unescape_plain fuel r (fun e => h (.tail _ e)) (by simpa using hf)]
    · rfl
    all_goals (intros; simp_all)

theorem dropWhile_append_of_notMem (q : Char) : ∀ (c l : Str), q ∉ c → c ≠ [] → (c ++ l).dropWhile (· == q) = c ++ l
  | x :: xs, l, hq, _ => by
    have : x ≠ q := fun e => hq (e ▸ .head _)
    simp [this]

theorem trimMatches_quoted (q : Char) (c : Str) (hq : q ∉ c) : trimMatches q (q :: (c ++ [q])) = c := by
  by_cases hc : c = []
  · subst hc; simp [trimMatches, List.dropWhile]
  · have h1 := dropWhile_append_of_notMem q c [q] hq hc
    have h2 := dropWhile_append_of_notMem q c.reverse [] (by simpa using hq) (by simpa using hc)
    simp only [List.append_nil] at h2
    simp [trimMatches, List.dropWhile, h1, h2]

theorem getLast_q (q : Char) (k : Str) : (q :: (k ++ [q])).getLast? = some q := by
  rw [← List.cons_append, List.getLast?_append]; simp

/-- a name lexeme without escape sequences: shorthand text, or `q c q` with neither `q` nor `\` in `c` -/
inductive PlainName : Str → Str → Prop
  | shorthand (raw : Str) : '\\' ∉ raw → raw.head? ≠ some '\'' → raw.head? ≠ some '"' → PlainName raw raw
  | quoted (q : Char) (c : Str) : (q = '\'' ∨ q = '"') → q ∉ c → '\\' ∉ c → PlainName (q :: (c ++ [q])) c

theorem PlainName.no_backslash {raw k : Str} (h : PlainName raw k) : '\\' ∉ raw := by
  cases h with
  | shorthand _ hb => exact hb
  | quoted q _ hq _ hb => rcases hq with rfl | rfl <;> simp [hb]

theorem decodeName_plain {raw k : Str} (h : PlainName raw k) : Spec.decodeName raw = some k := by
  cases h with
  | shorthand raw hb h1 h2 => unfold Spec.decodeName; split <;> simp_all
  | quoted q _ hq hqc hb =>
    have hu := unescape_plain (k.length + 1 + 1) k hb (by omega)
    rcases hq with rfl | rfl <;> simp [Spec.decodeName, Spec.decodeQuoted, getLast_q, hu]

theorem valueGet_plain {raw k : Str} (h : PlainName raw k) (v : Json) :
    valueGet v (normalizeKey raw) = match v with
      | .obj kvs => (lookup k kvs).map fun x => (k, x)
      | _ => none := by
  rw [normalizeKey_plain raw h.no_backslash]
  unfold valueGet
  cases h with
  | shorthand raw hb h1 h2 => simp [h1, h2] <;> cases v <;> rfl
  | quoted q _ hq hqc hb => rcases hq with rfl | rfl <;> simp [getLast_q, trimMatches_quoted _ _ hqc] <;> cases v <;> rfl

/-- the name selector on one pointer, in normal form: the member `k` of an object, if there is one -/
theorem processKey_plain {raw k : Str} (h : PlainName raw k) (p : Ptr) : processKey raw p =
    match p.inner with
    | .obj kvs => .ofOpt ((lookup k kvs).map fun v => Ptr.key v p.loc k p.path raw)
    | _ => .nothing := by
  unfold processKey; rw [valueGet_plain h]
  cases p.inner <;> try rfl
  rename_i kvs; dsimp only; cases lookup k kvs <;> rfl

theorem processKey_spec {raw k : Str} (h : PlainName raw k) (E : Engine) (root : Json) (p : Ptr) :
    nodesOf (processKey raw p) = Spec.sel E root (.name raw) (toN p) := by
  obtain ⟨loc, j, path⟩ := p
  rw [processKey_plain h, Spec.sel, Spec.selName, decodeName_plain h]
  cases j <;> try rfl
  rename_i kvs; dsimp only; cases lookup k kvs <;> rfl

end JP
