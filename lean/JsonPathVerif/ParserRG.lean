import JsonPathVerif.Builder
/-! C07, integer range: whatever pair tree pest hands to the builder, every integer of an index selector, a slice bound or step,
or a singular-query index in a query the builder accepts lies in the I-JSON range ±(2^53-1), and every number LITERAL is an integer
in that range or a decimal that rounds to a finite double (`rgLit`).  (RFC 9535 does not clearly demand the literal part – the oracle
abstains on such strings –, but it is what keeps comparisons inside the exact-number domain: see D30.) -/
namespace JP

def inRangeB (i : Int) : Bool := decide (-9007199254740991 ≤ i ∧ i ≤ 9007199254740991)
def oInRange : Option Int → Bool | none => true | some i => inRangeB i
def sqRange : SQSeg → Bool | .index i => inRangeB i | .name _ => true
/-- a number literal the crate can hold: an integer in the I-JSON range, a float that rounds to a finite double -/
def rgLit : Literal → Bool
  | .int i => inRangeB i
  | .float n d => f64Finite n d
  | _ => true

mutual
def rgSeg : Segment → Bool
  | .descendant s => rgSeg s
  | .selector s => rgSel s
  | .selectors ss => rgSels ss
def rgSels : List Selector → Bool
  | [] => true
  | s :: ss => rgSel s && rgSels ss
def rgSel : Selector → Bool
  | .index i => inRangeB i
  | .slice a b c => oInRange a && oInRange b && oInRange c
  | .filter f => rgFlt f
  | _ => true
def rgSegs : List Segment → Bool
  | [] => true
  | s :: ss => rgSeg s && rgSegs ss
def rgFlt : Filter → Bool
  | .or fs => rgFlts fs
  | .and fs => rgFlts fs
  | .atom a => rgAtom a
def rgFlts : List Filter → Bool
  | [] => true
  | f :: fs => rgFlt f && rgFlts fs
def rgAtom : FilterAtom → Bool
  | .filter e _ => rgFlt e
  | .test t _ => rgTest t
  | .cmp _ l r => rgCmp l && rgCmp r
def rgTest : Test → Bool
  | .rel ss => rgSegs ss
  | .abs ss => rgSegs ss
  | .fn f => rgFn f
def rgCmp : Comparable → Bool
  | .lit l => rgLit l
  | .sq _ segs => segs.all sqRange
  | .fn f => rgFn f
def rgFn : TestFunction → Bool
  | .length a => rgArg a
  | .count a => rgArg a
  | .value a => rgArg a
  | .match a b => rgArg a && rgArg b
  | .search a b => rgArg a && rgArg b
  | .custom _ args => rgArgs args
def rgArgs : List FnArg → Bool
  | [] => true
  | a :: as => rgArg a && rgArgs as
def rgArg : FnArg → Bool
  | .lit l => rgLit l
  | .test t => rgTest t
  | .filter f => rgFlt f
end

theorem inRange_of_not_gt {v : Int} (h : ¬(v > MAXV || v < -MAXV)) : inRangeB v = true := by
  simp only [Bool.or_eq_true, decide_eq_true_eq] at h
  unfold MAXV at h
  simp only [inRangeB, decide_eq_true_eq]
  omega

theorem validateRange_rg {v w : Int} (h : validateRange v = .ok w) : inRangeB w = true := by
  unfold validateRange at h
  obtain ⟨hr, h⟩ := else_ok h
  cases h
  exact inRange_of_not_gt hr

/-- a number that went through `validate_range` before it is used -/
theorem checked_int {α} {x : R Int} {k : Int → R α} {res : α} (h : (do let v ← x; let v ← validateRange v; k v) = .ok res) :
    ∃ v, inRangeB v = true ∧ k v = .ok res := by
  obtain ⟨_, -, h⟩ := bind_ok h
  obtain ⟨w, hw, h⟩ := bind_ok h
  exact ⟨w, validateRange_rg hw, h⟩

/-- `slice_selector`: every bound that is present went through `validate_range` -/
theorem sliceB_rg {inp : Inp} {rule : PairT} {a b c : Option Int} (h : sliceB inp rule = .ok (a, b, c)) :
    rgSel (.slice a b c) = true := by
  unfold sliceB at h
  refine foldlM_ok (P := fun s => rgSel (.slice s.1 s.2.1 s.2.2) = true) ?_ rfl h
  intro ⟨a, b, c⟩ r s' hs hf
  simp only [rgSel, Bool.and_eq_true] at hs ⊢
  obtain ⟨⟨ha, hb⟩, hc⟩ := hs
  dsimp only at hf
  split at hf
  · obtain ⟨v, hv, hf⟩ := checked_int hf
    cases hf; exact ⟨⟨hv, hb⟩, hc⟩
  · obtain ⟨v, hv, hf⟩ := checked_int hf
    cases hf; exact ⟨⟨ha, hv⟩, hc⟩
  · split at hf
    · obtain ⟨v, hv, hf⟩ := checked_int hf
      cases hf; exact ⟨⟨ha, hb⟩, hv⟩
    · cases hf; exact ⟨⟨ha, hb⟩, rfl⟩
  · cases hf

theorem sqSegB_rg {inp : Inp} {r : PairT} {sg : SQSeg} (h : sqSegB inp r = .ok sg) : sqRange sg = true := by
  unfold sqSegB at h
  split at h
  · obtain ⟨_, -, h⟩ := bind_ok (else_ok h).2
    cases h; rfl
  · obtain ⟨_, -, h⟩ := bind_ok h
    obtain ⟨v, hv, h⟩ := checked_int h
    cases h; exact hv
  · cases h

theorem parseNumber_rg {num : Str} {l : Literal} (h : parseNumber num = .ok l) : rgLit l = true := by
  unfold parseNumber at h
  dsimp only at h
  split at h
  · split at h
    · obtain ⟨hfin, h⟩ := then_ok h
      cases h; exact hfin
    · cases h
  · split at h
    · obtain ⟨hr, h⟩ := else_ok h
      cases h; exact inRange_of_not_gt hr
    · cases h

theorem parseString_rg {str : Str} {l : Literal} (h : parseString str = .ok l) : rgLit l = true := by
  unfold parseString at h
  obtain ⟨_, -, h⟩ := bind_ok h
  split at h
  · cases h; rfl
  · obtain ⟨-, h⟩ := then_ok h
    cases h; rfl

theorem literalB_rg {inp : Inp} {rule : PairT} {l : Literal} (h : literalB inp rule = .ok l) : rgLit l = true := by
  unfold literalB at h
  obtain ⟨first, -, h⟩ := bind_ok h
  split at h
  · exact parseString_rg h
  · exact parseNumber_rg h
  · split at h
    · cases h; rfl
    · obtain ⟨-, h⟩ := then_ok h
      cases h; rfl
  · cases h; rfl
  · cases h

/-- the range predicates are closed under the builder: every integer and every number literal it puts into the AST has been
checked (`validate_range`, `parseNumber`) -/
def rgClass : AstClass where
  segs ss := rgSegs ss = true
  seg s := rgSeg s = true
  sel s := rgSel s = true
  arg a := rgArg a = true
  fn f := rgFn f = true
  test t := rgTest t = true
  flt f := rgFlt f = true
  atom a := rgAtom a = true
  cmp c := rgCmp c = true
  segs_of := conj_of_all rgSeg rgSegs rfl (fun _ _ => rfl) _
  seg_sel h := h
  seg_sels := conj_of_all rgSel rgSels rfl (fun _ _ => rfl) _
  seg_desc h := h
  sel_wildcard := rfl
  sel_name _ := rfl
  sel_index := validateRange_rg
  sel_slice := sliceB_rg
  sel_filter h := h
  arg_lit := literalB_rg
  arg_test h := h
  arg_filter h := h
  fn_new {name args f} hargs h := by
    rcases tryNewFn_cases h with ⟨a, rfl, -, rfl⟩ | ⟨a, rfl, -, hf⟩ | ⟨a, b, rfl, -, -, hf⟩ | rfl
    · exact hargs a (List.mem_singleton_self a)
    · rcases hf with rfl | rfl <;> exact hargs a (List.mem_singleton_self a)
    · rcases hf with rfl | rfl <;> simp [rgFn, hargs]
    · exact conj_of_all rgArg rgArgs rfl (fun _ _ => rfl) args hargs
  test_rel h := h
  test_abs h := h
  test_fn h := h
  flt_or := conj_of_all rgFlt rgFlts rfl (fun _ _ => rfl) _
  flt_and := conj_of_all rgFlt rgFlts rfl (fun _ _ => rfl) _
  flt_atom h := h
  atom_filter h := h
  atom_cmp hl hr := by simp [rgAtom, hl, hr]
  atom_test h _ := h
  cmp_lit := literalB_rg
  cmp_sq hs := List.all_eq_true.2 (mapR_all (fun _ _ => sqSegB_rg) hs)
  cmp_fn h _ := h

structure BuilderRG (fuel : Nat) : Prop where
  segments : ∀ inp p ss, segmentsB fuel inp p = .ok ss → rgSegs ss = true
  childSegment : ∀ inp p sg, childSegmentB fuel inp p = .ok sg → rgSeg sg = true
  segment : ∀ inp p sg, segmentB fuel inp p = .ok sg → rgSeg sg = true
  selector : ∀ inp p sl, selectorB fuel inp p = .ok sl → rgSel sl = true
  fnArg : ∀ inp p a, fnArgB fuel inp p = .ok a → rgArg a = true
  functionExpr : ∀ inp p f, functionExprB fuel inp p = .ok f → rgFn f = true
  test : ∀ inp p t, testB fuel inp p = .ok t → rgTest t = true
  logicalExpr : ∀ inp p f, logicalExprB fuel inp p = .ok f → rgFlt f = true
  logicalExprAnd : ∀ inp p f, logicalExprAndB fuel inp p = .ok f → rgFlt f = true
  filterAtom : ∀ inp p a, filterAtomB fuel inp p = .ok a → rgAtom a = true
  comparable : ∀ inp p c, comparableB fuel inp p = .ok c → rgCmp c = true

theorem builderRG : ∀ fuel, BuilderRG fuel := fun fuel => { builder_inv rgClass fuel with }

/-- C07: every integer of an index selector, slice, or singular-query index in an accepted query is in the I-JSON range, and every
number literal is such an integer or a decimal that rounds to a finite double -/
theorem parse_intsInRange (s : Str) (q : List Segment) (h : parseJsonPath s = .ok q) : rgSegs q = true :=
  have ⟨_, _, _, h⟩ := parseJsonPath_ok h
  (builderRG _).segments _ _ q h

end JP
