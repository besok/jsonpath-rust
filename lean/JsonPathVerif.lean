import JsonPathVerif.Basic
import JsonPathVerif.Theorems.C01
import JsonPathVerif.Theorems.C02
import JsonPathVerif.Theorems.C03
import JsonPathVerif.Theorems.C04
import JsonPathVerif.Theorems.C05
import JsonPathVerif.Theorems.C06
import JsonPathVerif.Theorems.C07
import JsonPathVerif.Theorems.C08
import JsonPathVerif.Theorems.C09
import JsonPathVerif.Theorems.C10
import JsonPathVerif.Theorems.C11
import JsonPathVerif.Theorems.C12
import JsonPathVerif.Theorems.C13
import JsonPathVerif.Theorems.C14
import JsonPathVerif.Theorems.C15
